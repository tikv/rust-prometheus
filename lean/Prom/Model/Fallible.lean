import Prom.Model.Desc
import Prom.Model.Histogram
import Prom.Model.Family
/-
Panic-explicit models of the fallible API paths (C17). Every partial operation the Rust code
performs on these paths (`unwrap`, indexing, `len() - 1`, slicing a `str` at a byte index,
`Vec::with_capacity`) is written with its failure branch as the third outcome `panic`.
-/
namespace Prom

inductive Outcome (α : Type) | ok (a : α) | err | panic
deriving Repr, DecidableEq

namespace Outcome
def bind {α β} (x : Outcome α) (f : α → Outcome β) : Outcome β :=
  match x with | .ok a => f a | .err => .err | .panic => .panic
def ofOption {α} : Option α → Outcome α | some a => .ok a | none => .err
/-- `Option::unwrap` -/
def unwrap {α} : Option α → Outcome α | some a => .ok a | none => .panic
def isPanic {α} : Outcome α → Bool | .panic => true | _ => false
end Outcome

/-- `v[i]` -/
def idxP {α} (l : List α) (i : Nat) : Outcome α := Outcome.unwrap l[i]?
/-- `a - b` on `usize` (overflow check) -/
def subP (a b : Nat) : Outcome Nat := if b ≤ a then .ok (a - b) else .panic

/-! ### `check_and_adjust_buckets` with its partial operations -/

/-- the loop `for (i, ub) in buckets.iter().enumerate()`: NaN check, then
    `i < len - 1 && ub >= buckets[i + 1]` -/
def bucketLoopP (bs : List UInt64) (lenM1 : Nat) : List UInt64 → Nat → Outcome Unit
  | [], _ => .ok ()
  | ub :: rest, i =>
    if f64IsNaN ub then .err
    else if i < lenM1 then
      (idxP bs (i + 1)).bind fun nxt => if f64Ge ub nxt then .err else bucketLoopP bs lenM1 rest (i + 1)
    else bucketLoopP bs lenM1 rest (i + 1)

def checkAndAdjustP (defaults bs : List UInt64) : Outcome (List UInt64) :=
  let bs := if bs.isEmpty then defaults else bs
  (subP bs.length 1).bind fun lenM1 =>
  (bucketLoopP bs lenM1 bs 0).bind fun _ =>
  (Outcome.unwrap bs.getLast?).bind fun tail =>
  .ok (if f64IsPosInf tail then bs.dropLast else bs)

/-! ### `linear_buckets` / `exponential_buckets` with their partial operations

After the argument checks both functions only allocate a `Vec<f64>` of `count` elements
(`(0..count).map(..).collect()` over a `TrustedLen` iterator, resp. `Vec::with_capacity(count)`) and
fill it: no indexing, no `unwrap`, no integer subtraction; `step as f64` and the float arithmetic are
total. The single partial operation is the allocation request itself: `Vec::with_capacity` panics
with "capacity overflow" when `count * size_of::<f64>()` exceeds `isize::MAX` bytes (an allocation
that fits but cannot be served aborts the process; that is not a panic and not modelled). The
`push`es stay within the reserved capacity and cannot panic. -/

/-- `isize::MAX` on the 64-bit targets the crate is built for -/
def isizeMax : Nat := 2 ^ 63 - 1

/-- `Vec::<T>::with_capacity(n)` with `size_of::<T>() = elemSize`: "capacity overflow" panic -/
def vecWithCapacityP (elemSize n : Nat) : Outcome Unit :=
  if elemSize * n ≤ isizeMax then .ok () else .panic

/-- `linear_buckets`, panic-explicit -/
def linearBucketsP (start width : UInt64) (count : Nat) : Outcome (List UInt64) :=
  if count < 1 then .err
  else if f64Le width f64Zero then .err
  else (vecWithCapacityP 8 count).bind fun _ =>
    .ok ((List.range count).map fun step => f64Add start (f64Mul width (f64OfNat step)))

/-- `exponential_buckets`, panic-explicit -/
def exponentialBucketsP (start factor : UInt64) (count : Nat) : Outcome (List UInt64) :=
  if count < 1 then .err
  else if f64Le start f64Zero then .err
  else if f64Le factor f64One then .err
  else (vecWithCapacityP 8 count).bind fun _ => .ok (expLoop factor count start)

/-! ### `make_label_pairs` -/

def pairLoopP (vals : List Str) : List Str → Nat → Outcome (List LabelPair)
  | [], _ => .ok []
  | n :: rest, i => (idxP vals i).bind fun v => (pairLoopP vals rest (i + 1)).bind fun t => .ok (⟨n, v⟩ :: t)

def makeLabelPairsP (d : Desc) (vals : List Str) : Outcome (List LabelPair) :=
  if d.varLabels.length != vals.length then .err
  else if d.varLabels.length + d.constPairs.length == 0 then .ok []
  else if d.varLabels.isEmpty then .ok d.constPairs
  else (pairLoopP vals d.varLabels 0).bind fun ps => .ok (stableSortBy lpLe (ps ++ d.constPairs))

/-! ### `Desc::new`: the `unwrap` on the const-label lookup -/

def lookupAllP (m : List (Str × Str)) : List Str → Outcome (List Str)
  | [] => .ok []
  | k :: r => (Outcome.unwrap ((m.find? (·.1 == k)).map (·.2))).bind fun v => (lookupAllP m r).bind fun t => .ok (v :: t)

/-! ### `escape_string`: slicing a `str` at the index of the first special byte -/

/-- is byte index `i` a character boundary of the UTF-8 string `cs`? -/
def isCharBoundary (cs : List Char) (i : Nat) : Bool :=
  match cs with
  | [] => i == 0
  | c :: r => i == 0 || (let n := (String.utf8EncodeChar c).length; n ≤ i && isCharBoundary r (i - n))

def isSpecial (quote : Bool) (b : UInt8) : Bool := b == 92 || b == 10 || (quote && b == 34)

/-- `&v[0..first]` / `v[first..]`: panics unless `first` is a char boundary -/
def escapeSliceP (cs : List Char) (quote : Bool) : Outcome Unit :=
  match (cs.flatMap String.utf8EncodeChar).findIdx? (isSpecial quote) with
  | none => .ok ()
  | some first => if isCharBoundary cs first then .ok () else .panic

/-! ### the encoders' outcome (C17 only needs ok / err / panic) -/

inductive EncKind | text | pb
deriving Repr, DecidableEq

/-- `check_metric_family`, then (text) the per-type match. `writerFails` = the `io::Write` errors. -/
def encodeOutcome (k : EncKind) (writerFails : Bool) : List Family → Outcome Unit
  | [] => .ok ()
  | f :: rest =>
    if f.samples.isEmpty then .err
    else if f.name.isEmpty then .err
    else if writerFails then .err
    else if k = .text ∧ f.ty = .untyped then .err      -- the text encoder answers `Err` for an UNTYPED family
    else encodeOutcome k writerFails rest

end Prom
