import Prom.Model.Family
/-
Model of src/registry.rs: `RegistryCore::{register, unregister, gather}` and
`Registry::new_custom`. Hash maps are lists in *arbitrary* order (the theorems quantify over
permutations); the BTreeMap of `gather` is a name-sorted association list.
-/
namespace Prom

structure Coll where
  descs : List Desc
  fams : List Family          -- what `collect()` returns at gather time
deriving Repr

inductive RErr | alreadyReg | msg
deriving Repr, BEq, DecidableEq

structure Reg where
  collectors : List (UInt64 × Coll) := []     -- collectors_by_id
  dimHashes : List (Str × UInt64) := []       -- dim_hashes_by_name
  descIds : List UInt64 := []                 -- desc_ids
  labels : Option (List (Str × Str)) := none
  pref : Option Str := none
deriving Repr

/-- `Registry::new_custom` -/
def Reg.newCustom (pref : Option Str) (labels : Option (List (Str × Str))) : Option Reg :=
  let prefOk := match pref with
    | none => true
    | some p => !p.isEmpty && isValidMetricName p
  let labelsOk := match labels with
    | none => true
    | some m => m.all fun kv => isValidLabelName kv.1
  if prefOk && labelsOk then some { labels := labels, pref := pref } else none

def dimLookup (m : List (Str × UInt64)) (k : Str) : Option UInt64 := (m.find? (·.1 == k)).map (·.2)
def dimInsert (m : List (Str × UInt64)) (k : Str) (h : UInt64) : List (Str × UInt64) :=
  (m.filter (·.1 != k)) ++ [(k, h)]

/-- does a label of the descriptor repeat one of the registry's common labels? -/
def clashesCommon (labels : Option (List (Str × Str))) (d : Desc) : Bool :=
  match labels with
  | none => false
  | some m => (d.constPairs.map (·.name) ++ d.varLabels).any fun n => m.any (·.1 == n)

/-- the descriptor loop of `register`: returns the staged (id set, new dim hashes, collector id) -/
def regLoop (r : Reg) : List Desc → List UInt64 → List (Str × UInt64) → UInt64 →
    Except RErr (List UInt64 × List (Str × UInt64) × UInt64)
  | [], ids, nd, cid => .ok (ids, nd, cid)
  | d :: rest, ids, nd, cid =>
    if clashesCommon r.labels d then .error .msg
    else if r.descIds.contains d.id then .error .alreadyReg
    else
      let known := match dimLookup r.dimHashes d.fqName with
        | some h => some h
        | none => dimLookup nd d.fqName
      match known with
      | some h => if h != d.dimHash then .error .msg else
          if ids.contains d.id then .error .msg
          else regLoop r rest (ids ++ [d.id]) (dimInsert nd d.fqName d.dimHash) (cid + d.id)
      | none =>
          if ids.contains d.id then .error .msg
          else regLoop r rest (ids ++ [d.id]) (dimInsert nd d.fqName d.dimHash) (cid + d.id)

def Reg.register (r : Reg) (c : Coll) : Reg × Except RErr Unit :=
  match regLoop r c.descs [] [] 0 with
  | .error e => (r, .error e)
  | .ok (ids, nd, cid) =>
    if r.collectors.any (·.1 == cid) then (r, .error .alreadyReg)
    else ({ r with collectors := r.collectors ++ [(cid, c)],
                   descIds := r.descIds ++ ids,
                   dimHashes := nd.foldl (fun m kv => dimInsert m kv.1 kv.2) r.dimHashes }, .ok ())

def distinctIds : List Desc → List UInt64 → List UInt64
  | [], acc => acc
  | d :: r, acc => if acc.contains d.id then distinctIds r acc else distinctIds r (acc ++ [d.id])

def Reg.unregister (r : Reg) (c : Coll) : Reg × Except RErr Unit :=
  let ids := distinctIds c.descs []
  let cid := ids.foldl (· + ·) (0 : UInt64)
  if r.collectors.any (·.1 == cid) then
    ({ r with collectors := r.collectors.filter (·.1 != cid),
              descIds := r.descIds.filter (fun i => !ids.contains i) }, .ok ())
  else (r, .error .msg)

/-- insert/merge into the name-sorted association (BTreeMap `entry`) -/
def famInsert (f : Family) : List Family → List Family
  | [] => [f]
  | g :: r =>
    if g.name == f.name then { g with samples := g.samples ++ f.samples } :: r
    else if strLt f.name g.name then f :: g :: r
    else g :: famInsert f r

/-- first position at which the label VALUES of two samples differ (the `for (lp1, lp2) in zip` loop) -/
def firstDiff : List LabelPair → List LabelPair → Option (Str × Str)
  | x :: xs, y :: ys => if x.value != y.value then some (x.value, y.value) else firstDiff xs ys
  | _, _ => none

/-- once the numbers of labels agree: the first differing pair of values decides, else `p` -/
def cmpTail (fd : Option (Str × Str)) (p : Bool) : Bool :=
  match fd with
  | some (x, y) => strLe x y
  | none => p

/-- the sample comparator of `gather`, as "a sorts no later than b": number of labels, then the
    label values position-wise, then the timestamp -/
def sampleLe (a b : Sample) : Bool :=
  if a.labels.length != b.labels.length then a.labels.length ≤ b.labels.length
  else cmpTail (firstDiff a.labels b.labels) (decide (a.ts ≤ b.ts))

def applyPrefix (pref : Option Str) (name : Str) : Str :=
  match pref with
  | none => name
  | some p => p ++ [us] ++ name

def commonPairs (labels : Option (List (Str × Str))) : List LabelPair :=
  match labels with
  | none => []
  | some m => stableSortBy lpLe (m.map fun kv => ⟨kv.1, kv.2⟩)

/-- `RegistryCore::gather` given what each collector returns, in collector iteration order -/
def gatherFams (pref : Option Str) (labels : Option (List (Str × Str))) (collected : List Family) : List Family :=
  let merged := collected.foldl (fun acc f => if f.samples.isEmpty then acc else famInsert f acc) []
  merged.map fun f =>
    { f with name := applyPrefix pref f.name,
             samples := (stableSortBy sampleLe f.samples).map fun s =>
               { s with labels := s.labels ++ commonPairs labels } }

def Reg.gather (r : Reg) : List Family :=
  gatherFams r.pref r.labels (r.collectors.flatMap (·.2.fams))

end Prom
