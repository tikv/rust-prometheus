import Prom.Base.F64
import Prom.Base.Wire
import Prom.Model.Histogram
/-
Executable step machines for the concurrent objects, at the granularity of the atomic / lock
operations the cfg(prometheus_verif) shim reports. The driver *replays* a trace observed on the
real implementation under the deterministic scheduler: every event must be a next step the model
accepts of the issuing thread's current API call - its kind or one of the equivalent ways of writing
the operation the machine lists (a swap for a store, a load + compare-exchange loop for a `fetch_add`,
`fetch_add` of the negation for `fetch_sub`), its location, an ordering at least the required one
(`ordGe`), its operands - and must return the value the model's memory holds; call / return marks
must match the program and the model's return value.
-/
namespace Prom.Conc
open Prom

structure Ev where
  tid : Nat
  k : String        -- L load, S store, A fetch_add, U fetch_sub, W swap, C cas, K/k lock/unlock, R/r, X/x
  loc : String
  ord : String
  a : UInt64
  b : UInt64
  res : UInt64
  ok : Bool
deriving Repr

inductive Item
  | ev (e : Ev)
  | call (tid : Nat) (i : String) (op : String)
  | ret (tid : Nat) (i : String) (v : String)
  | other (s : String)
deriving Repr

def parseItem (s : String) : Item :=
  match s.splitOn "." with
  | [t, k, loc, ord, a, b, r, ok] =>
    match t.toNat?, parseHexNat a, parseHexNat b, parseHexNat r with
    | some t, some a, some b, some r => .ev ⟨t, k, loc, ord, a.toUInt64, b.toUInt64, r.toUInt64, ok == "1"⟩
    | _, _, _, _ => .other s
  | [t, "call", i, op] => match t.toNat? with | some t => .call t i op | none => .other s
  | [t, "ret", i, v] => match t.toNat? with | some t => .ret t i v | none => .other s
  | [t, "ret", i] => match t.toNat? with | some t => .ret t i "" | none => .other s
  | _ => .other s

def parseTrace (s : String) : List Item := if s == "-" then [] else (s.splitOn ",").map parseItem
def parseProg (s : String) : List (List String) := (s.splitOn "|").map fun t => if t == "-" then [] else t.splitOn ","

/-- is the memory ordering the implementation passed at least as strong as the one the model requires? -/
def ordGe (given required : String) : Bool :=
  given == required || given == "SeqCst" || required == "Relaxed" ||
  (given == "AcqRel" && (required == "Acquire" || required == "Release"))

abbrev Mem := List (String × UInt64)
def Mem.get (m : Mem) (l : String) : UInt64 := ((m.find? (·.1 == l)).map (·.2)).getD 0
def Mem.set (m : Mem) (l : String) (v : UInt64) : Mem := (l, v) :: m.filter (·.1 != l)

def opName (op : String) : String := (op.splitOn ":").headD ""
def opArg (op : String) : String := ((op.splitOn ":").drop 1).headD ""
def parseIntArg (s : String) : Int := s.toInt?.getD 0
def f64OfInt (i : Int) : UInt64 := (Float.ofInt i).toBits
/-- `i · 2^-70` as f64 bits: amounts far below `f64::EPSILON` (the `…u` operations of the tiny-amount programs) -/
def f64OfIntTiny (i : Int) : UInt64 := (Float.scaleB (Float.ofInt i) (-70)).toBits
def u64OfInt (i : Int) : UInt64 := if i ≥ 0 then i.toNat.toUInt64 else (0 : UInt64) - (-i).toNat.toUInt64

/-- generic per-thread call state -/
structure Th (Pc : Type) where
  ops : List String
  idx : Nat := 0
  pc : Option Pc := none        -- none = between calls
  retv : Option String := none  -- some v = all steps done, waiting for the return mark

def setAt {α} (l : List α) (i : Nat) (v : α) : List α := l.set i v

/-! ## one atomic cell: Counter / IntCounter / Gauge / IntGauge (C01, C11) -/

def guard {α} (c : Bool) (msg : String) (k : Except String α) : Except String α :=
  if c then k else .error msg

inductive APc
  | start                      -- call seen, no step yet
  | cas (cur : UInt64)         -- add as a loop (float; integer): loaded `cur`, next is the compare-exchange to `cur + delta`
  | retry (cur : UInt64)       -- add as a loop: a compare-exchange failed and reported `cur`; the loop either loads again
                               -- (as from `start`) or retries at once with the reported value (as from `cas cur`)
deriving Repr

/-- one committed operation: thread, call index, the call, the value it returns -/
structure LinEv where
  tid : Nat
  idx : Nat
  op : String
  rv : String
deriving Repr

structure ASt where
  float : Bool
  counter : Bool
  mem : UInt64 := 0
  ths : List (Th APc)
  lin : List LinEv := []        -- ghost: the operations in the order in which they took effect

def hexStr (v : UInt64) : String := String.ofList (Nat.toDigits 16 v.toNat)

/-- the float delta of an op (`inc_by(d)`, `dec_by(d) = inc_by(-d)`), `none` = not an add -/
def floatDelta (op : String) : Option UInt64 :=
  let a := parseIntArg (opArg op)
  match opName op with
  | "inc" => some (f64OfInt 1) | "dec" => some (f64OfInt (-1))
  | "incby" | "add" | "lflush" => some (f64OfInt a)
  | "sub" => some (f64NegOp (f64OfInt a))
  | "incbyu" | "addu" => some (f64OfIntTiny a)
  | "subu" => some (f64NegOp (f64OfIntTiny a))
  | _ => none

/-- the integer operand of an integer-flavour add / sub -/
def intDelta (op : String) : UInt64 :=
  let n := opName op
  u64OfInt (if n == "inc" || n == "dec" then 1 else parseIntArg (opArg op))

def isSubOp (op : String) : Bool := opName op == "dec" || opName op == "sub"

/-- **the sequential specification** of one cell: what a call does to the value and what it returns
    when it runs alone. `none` = not an operation of this flavour. -/
def specApply (float : Bool) (v : UInt64) (op : String) : Option (UInt64 × String) :=
  let n := opName op
  if n == "get" then some (v, hexStr v)
  else if n == "set" || n == "reset" then
    let x : Int := if n == "reset" then 0 else parseIntArg (opArg op)
    some (if float then f64OfInt x else u64OfInt x, "")
  else if float then (floatDelta op).map fun d => (f64Add v d, "")
  else some (if isSubOp op then v - intDelta op else v + intDelta op, "")

/-- the value the compare-exchange of the add / sub `op` installs when it expects `cur`: `cur + delta` in the
    arithmetic of the flavour (IEEE addition of the float delta; wrapping `u64` addition resp. subtraction of the
    integer operand). `none` = `op` is not an add of this flavour. -/
def casNew (float : Bool) (op : String) (cur : UInt64) : Option UInt64 :=
  if float then (floatDelta op).map fun d => f64Add cur d
  else
    let n := opName op
    if n == "get" || n == "set" || n == "reset" then none
    else some (if isSubOp op then cur - intDelta op else cur + intDelta op)

/-- the ordering the successful compare-exchange of an add needs: the float loop publishes with Release (as the
    library does), the integer loop replaces a Relaxed `fetch_add` / `fetch_sub` -/
def casOrd (float : Bool) : String := if float then "Release" else "Relaxed"

/-- the first step of the call `op` (program counter `start`): the new cell value and either the next
    program counter (`inl`) or the value the call returns (`inr`: the call is complete, it took
    effect in this step). A `set` / `reset` is one store, or one swap (whose result, the old value, the
    caller ignores); an integer add / sub is one `fetch_add` / `fetch_sub`, or begins - with a load - the
    same load + compare-exchange loop a float add is. -/
def aEvStart (float : Bool) (mem : UInt64) (op : String) (e : Ev) : Except String (UInt64 × (APc ⊕ String)) :=
  let n := opName op
  if n == "get" then
    guard (e.k == "L" && ordGe e.ord "Relaxed" && e.res == mem) s!"get: expected load Relaxed -> {hexStr mem}" (.ok (mem, .inr (hexStr mem)))
  else if n == "set" || n == "reset" then
    let x : Int := if n == "reset" then 0 else parseIntArg (opArg op)
    let bits := if float then f64OfInt x else u64OfInt x
    guard ((e.k == "S" || (e.k == "W" && e.res == mem)) && ordGe e.ord "Relaxed" && e.a == bits)
      s!"set: expected store Relaxed {hexStr bits} (or swap Relaxed {hexStr bits} -> {hexStr mem})" (.ok (bits, .inr ""))
  else if float then
    match floatDelta op with
    | none => .error s!"unknown op {op}"
    | some _ =>
      guard (e.k == "L" && ordGe e.ord "Acquire" && e.res == mem) s!"float add: expected load Acquire -> {hexStr mem}"
        (.ok (mem, .inl (.cas mem)))
  else if e.k == "L" then
    -- the integer add / sub written as a compare-exchange loop: its load
    guard (ordGe e.ord "Relaxed" && e.res == mem) s!"int {n}: expected load Relaxed -> {hexStr mem}" (.ok (mem, .inl (.cas mem)))
  else
    let want := if isSubOp op then "U" else "A"
    let newv := if isSubOp op then mem - intDelta op else mem + intDelta op
    -- one read-modify-write: `fetch_add d` / `fetch_sub d`, or the other one with the wrapping negation of `d` (x - d = x + (-d))
    let other := if isSubOp op then "A" else "U"
    guard (((e.k == want && e.a == intDelta op) || (e.k == other && e.a == 0 - intDelta op)) && ordGe e.ord "Relaxed" && e.res == mem)
      s!"int {n}: expected {want} Relaxed {hexStr (intDelta op)} -> {hexStr mem} (or load Relaxed -> {hexStr mem})" (.ok (newv, .inr ""))

/-- the compare-exchange of an add (float, or integer written as a loop) whose expected value is `cur`
    (program counter `cas cur`): it must install `casNew float op cur`; a success must have found `cur` in the
    cell, a failure reports the cell's value and changes nothing -/
def aEvCas (float : Bool) (mem : UInt64) (op : String) (cur : UInt64) (e : Ev) : Except String (UInt64 × (APc ⊕ String)) :=
  match casNew float op cur with
  | none => .error s!"unknown op {op}"
  | some newv =>
    guard (e.k == "C" && ordGe e.ord (casOrd float) && e.a == cur && e.b == newv) s!"add: expected cas {casOrd float} {hexStr cur} -> {hexStr newv}" <|
      if e.ok then
        guard (mem == cur && e.res == cur) "cas succeeded although the cell no longer holds the loaded value" (.ok (newv, .inr ""))
      else
        -- failure: value changed, or spurious (weak); the loop either reloads or goes on with the value
        -- the failed compare-exchange reported (`Err(v) => cur = v`)
        guard (e.res == mem) "failed cas reports a wrong current value" (.ok (mem, .inl (.retry mem)))

/-- one accepted event of the call `op`: the new cell value and either the next program counter
    (`inl`) or the value the call returns (`inr`: the call is complete, it took effect in this step).
    After a failed compare-exchange that reported `cur` (`retry cur`) both ways of writing the loop are
    accepted: a load is treated exactly as at `start`, anything else exactly as at `cas cur`. -/
def aEv (float : Bool) (mem : UInt64) (op : String) (pc : APc) (e : Ev) : Except String (UInt64 × (APc ⊕ String)) :=
  if e.loc != "v0" then .error "unknown location" else
  match pc with
  | .start => aEvStart float mem op e
  | .cas cur => aEvCas float mem op cur e
  | .retry cur => if e.k == "L" then aEvStart float mem op e else aEvCas float mem op cur e

def aStep (s : ASt) (e : Ev) : Except String ASt :=
  match s.ths[e.tid]? with
  | none => .error "no such thread"
  | some th =>
    match th.pc with
    | none => .error "event outside a call"
    | some pc =>
      let op := th.ops.getD th.idx ""
      match aEv s.float s.mem op pc e with
      | .error m => .error m
      | .ok (mem', .inl pc') => .ok { s with mem := mem', ths := s.ths.set e.tid { th with pc := some pc' } }
      | .ok (mem', .inr rv) =>
        .ok { s with mem := mem', ths := s.ths.set e.tid { th with pc := none, retv := some rv },
                     lin := s.lin ++ [⟨e.tid, th.idx, op, rv⟩] }

/-- call / return marks common to all machines: returns the thread with the call opened / closed -/
def openCall {Pc} (th : Th Pc) (i op : String) (mk : String → Option Pc) (skip : String → Bool) : Except String (Th Pc) :=
  if th.pc.isSome || th.retv.isSome then .error "call while another call is open"
  else if toString th.idx != i then .error s!"call index {i}, expected {th.idx}"
  else if th.ops.getD th.idx "" != op then .error s!"call {op}, program says {th.ops.getD th.idx ""}"
  else if skip op then .ok { th with retv := some "" }
  else .ok { th with pc := mk op }

def closeCall {Pc} (th : Th Pc) (i v : String) : Except String (Th Pc) :=
  match th.retv with
  | none => .error s!"return before the call's steps are complete (op {th.ops.getD th.idx ""})"
  | some rv =>
    if toString th.idx != i then .error "return index" else
    if rv != v then .error s!"returned {v}, model returns {rv}"
    else .ok { th with idx := th.idx + 1, retv := none }

def aItem (s : ASt) : Item → Except String ASt
  | .ev e => aStep s e
  | .call t i op =>
    match s.ths[t]? with
    | none => .error "no such thread"
    | some th =>
      -- a local flush of 0 performs no shared step
      match openCall th i op (fun _ => some .start) (fun op => opName op == "lflush" && parseIntArg (opArg op) == 0) with
      | .ok th' => .ok { s with ths := s.ths.set t th' }
      | .error e => .error e
  | .ret t i v =>
    match s.ths[t]? with
    | none => .error "no such thread"
    | some th => match closeCall th i v with
      | .ok th' => .ok { s with ths := s.ths.set t th' }
      | .error e => .error e
  | .other x => .error s!"unparsed trace item {x}"

def runItems {S} (step : S → Item → Except String S) : S → List Item → Nat → Except String S
  | s, [], _ => .ok s
  | s, it :: r, n => match step s it with
    | .ok s' => runItems step s' r (n + 1)
    | .error e => .error s!"diverge@{n}: {e}"

def allDone {Pc} (ths : List (Th Pc)) : Bool := ths.all fun t => t.idx == t.ops.length && t.pc.isNone && t.retv.isNone

/-- an operation that cannot lower a float counter: `get`, or an add whose delta is `>= +0` (not NaN) -/
def floatIncOp (op : String) : Bool :=
  opName op == "get" || (match floatDelta op with | some d => f64Le 0 d | none => false)

/-- the per-run discharge of the one fact about IEEE addition the float counter's monotonicity rests on
    (`C01.AddMono`): along the committed log, started from `v`, every step of the sequential specification
    led to a value `>=` (IEEE order, so no NaN either) the value before it -/
def floatStepsMonoB : UInt64 → List LinEv → Bool
  | _, [] => true
  | v, x :: r =>
    match specApply true v x.op with
    | some (v', _) => f64Le v v' && floatStepsMonoB v' r
    | none => false

def atomReplay (kind : String) (prog : List (List String)) (trace : List Item) : String :=
  let s0 : ASt := { float := kind == "counter" || kind == "gauge", counter := kind == "counter" || kind == "intcounter",
                    ths := prog.map fun ops => { ops := ops } }
  match runItems aItem s0 trace 0 with
  | .error e => e
  | .ok s =>
    if !allDone s.ths then "incomplete"
    -- a float COUNTER run made of `get`s and adds of deltas `>= 0`: the hypothesis of `reads_monotone_float` is checked on this very log
    else if s0.float && s0.counter && s.lin.all (fun x => floatIncOp x.op) && !floatStepsMonoB 0 s.lin then
      "float-add-decreased: a committed addition of a delta >= 0 lowered the cell (or produced NaN)"
    else s!"ok final={hexStr s.mem}"

/-! ## IntCounterVec (C10): critical sections of the children lock -/

/-- **the sequential specification** of a metric vector: label value ↦ child id, child id ↦ value -/
structure VSpec where
  map : List (String × Nat) := []      -- key ↦ child id
  vals : List UInt64 := []             -- child id ↦ value (children are never destroyed: handles stay usable)
deriving Repr

inductive VOp
  | getOrCreate (k : String) | remove (k : String) | reset | keys | inc (c : Nat) | read (c : Nat)
deriving Repr

inductive VRes
  | child (c : Nat) | ok | err | unit | keys (l : List (String × Nat)) | val (v : UInt64)
deriving Repr, BEq, DecidableEq

def VSpec.lookup (s : VSpec) (k : String) : Option Nat := (s.map.find? (·.1 == k)).map (·.2)

/-- what an operation does when it runs alone -/
def VSpec.apply (s : VSpec) : VOp → VSpec × VRes
  | .getOrCreate k =>
    match s.lookup k with
    | some c => (s, .child c)
    | none => ({ map := s.map ++ [(k, s.vals.length)], vals := s.vals ++ [0] }, .child s.vals.length)
  | .remove k =>
    match s.lookup k with
    | some _ => ({ s with map := s.map.filter (·.1 != k) }, .ok)
    | none => (s, .err)
  | .reset => ({ s with map := [] }, .unit)
  | .keys => (s, .keys s.map)
  | .inc c => ({ s with vals := s.vals.set c (s.vals.getD c 0 + 1) }, .unit)
  | .read c => (s, .val (s.vals.getD c 0))

inductive VPc
  | start (op : String)
  | rheld (op : String) (hit : Option Nat)      -- read lock held; lookup result
  | needW (op : String)                          -- read section missed, next: write lock
  | wheld (op : String) (res : String)           -- write lock held, effect done
  | incChild (child : Nat)                       -- `inc` through a returned handle: call seen, no step yet
  | incCas (child : Nat) (cur : UInt64)          -- `inc` written as a loop: loaded `cur`, next is the compare-exchange to `cur + 1`
  | incRetry (child : Nat) (cur : UInt64)        -- `inc` written as a loop: a compare-exchange failed and reported `cur`; the loop either
                                                 -- loads again (as from `incChild`) or retries at once with the reported value (as from `incCas`)
  | collecting (keys : List (String × Nat)) (reads : List (String × UInt64 × List Nat))   -- value reads so far: location, value, the children it can be
  | rmRheld (op : String) (done : Option String)  -- `rm` / `reset` pre-check: read lock held; `some rv` = key absent / map empty, the remove / reset is committed with result `rv`
  | rmNeedW (op : String)                         -- `rm` / `reset` pre-check found the key / a non-empty map, read lock released; next: write lock
deriving Repr

/-- one committed operation: the thread, (ghost) the index of the call of that thread whose step
    performed it, the operation, what it returned -/
structure VLin where
  tid : Nat
  idx : Nat
  op : VOp
  res : VRes

structure VSt where
  ths : List (Th VPc)
  lockW : Option Nat := none      -- writer
  lockR : List Nat := []          -- readers
  spec : VSpec := {}              -- the vector's content: the machine only changes it through `vEff`
  binding : List (String × Nat) := []         -- location name ↦ child id
  handle : List (Nat × Nat) := []             -- thread ↦ child id of the handle it just got
  lin : List VLin := []           -- ghost: the operations in the order in which they took effect

/-- the only way the machine touches the vector's content: perform one operation of the sequential
    specification and record it -/
def vEff (s : VSt) (tid idx : Nat) (op : VOp) : VSt × VRes :=
  let r := s.spec.apply op
  ({ s with spec := r.1, lin := s.lin ++ [⟨tid, idx, op, r.2⟩] }, r.2)

def sortKeys (l : List String) : List String := l.foldl (fun acc a => insertBy (fun x y => decide (x ≤ y)) a acc) []
  where insertBy (le : String → String → Bool) (a : String) : List String → List String
    | [] => [a]
    | b :: r => if le b a then b :: insertBy le a r else a :: b :: r

/-- the result of the first candidate on which `k` succeeds -/
def tryCands {α} (k : Nat → Option α) : List Nat → Option α
  | [] => none
  | c :: cs => match k c with
    | some r => some r
    | none => tryCands k cs

/-- attribute the value reads of one collect to the children that were in the map: every read gets one of the
    children it could be at the time it was made (`cands`), each child exactly one read, and a location that has
    meanwhile been identified (by an update through a handle) goes to its child -/
def assignReads (binding : List (String × Nat)) : List (String × UInt64 × List Nat) → List Nat → Option (List (Nat × UInt64))
  | [], _ => some []
  | (loc, v, cands) :: rest, avail =>
    let ok (c : Nat) : Bool := avail.contains c && (match binding.find? (·.1 == loc) with | some (_, c') => c' == c | none => true)
    tryCands (fun c => (assignReads binding rest (avail.erase c)).map ((c, v) :: ·)) (cands.filter ok)

def setHandle (s : VSt) (tid c : Nat) : VSt := { s with handle := (tid, c) :: s.handle.filter (·.1 != tid) }

/-- identify the location `loc` as the cell of child `c` (the thread that touches `loc` does so through a handle
    to `c`): a location that is already bound must be bound to `c`; a location not seen before is bound to `c`,
    unless `c` already lives at another location. Changes nothing but `binding`. -/
def bindChild (s : VSt) (loc : String) (c : Nat) : Except String VSt :=
  match s.binding.find? (·.1 == loc) with
  | some (_, c') => guard (c' == c) s!"inc on {loc}, which is child {c'}, but the handle is child {c}" (.ok s)
  | none =>
    guard (!s.binding.any (·.2 == c)) s!"child {c} already lives at another location than {loc}" <|
    .ok { s with binding := (loc, c) :: s.binding }

/-- the `inc` of child `c` as ONE `fetch_add` of 1 (ordering at least Relaxed) that returns the child's current
    value: commits `.inc c` through `vEff`, the call is complete -/
def vIncAdd (s : VSt) (e : Ev) (th : Th VPc) (c : Nat) : Except String VSt :=
  guard (e.k == "A" && ordGe e.ord "Relaxed" && e.a == 1) "inc: expected fetch_add Relaxed 1 (or load Relaxed)" <|
  guard (e.res == s.spec.vals.getD c 0) "inc: wrong old value" <|
  match bindChild s e.loc c with
  | .error m => .error m
  | .ok s1 =>
    let s2 := (vEff s1 e.tid th.idx (.inc c)).1
    .ok { s2 with ths := s2.ths.set e.tid { th with pc := none, retv := some "" } }

/-- the `inc` of child `c` written as a compare-exchange loop: its load (ordering at least Relaxed) of the child's
    cell, which must return the child's current value. A stutter: nothing is committed, the vector's content stays;
    the thread goes on to the compare-exchange with the value loaded (and the location is identified as the
    child's cell, exactly as by a `fetch_add`). -/
def vIncLoad (s : VSt) (e : Ev) (th : Th VPc) (c : Nat) : Except String VSt :=
  guard (e.k == "L" && ordGe e.ord "Relaxed") "inc: expected load Relaxed" <|
  guard (e.res == s.spec.vals.getD c 0) "inc: the load returns a wrong value" <|
  match bindChild s e.loc c with
  | .error m => .error m
  | .ok s1 => .ok { s1 with ths := s1.ths.set e.tid { th with pc := some (.incCas c e.res) } }

/-- the compare-exchange (strong or weak, success ordering at least Relaxed) of an `inc` of child `c` whose expected
    value is `cur`: it must install `cur + 1` (wrapping). A success must have found `cur` in the child's cell - the
    child's CURRENT value - and commits `.inc c` through `vEff` exactly as the `fetch_add` does; a failure (value
    changed, or spurious) must report the child's current value and is a stutter. -/
def vIncCas (s : VSt) (e : Ev) (th : Th VPc) (c : Nat) (cur : UInt64) : Except String VSt :=
  guard (e.k == "C" && ordGe e.ord "Relaxed" && e.a == cur && e.b == cur + 1)
    s!"inc: expected cas Relaxed {hexStr cur} -> {hexStr (cur + 1)}" <|
  match bindChild s e.loc c with
  | .error m => .error m
  | .ok s1 =>
    if e.ok then
      guard (s.spec.vals.getD c 0 == cur && e.res == cur) "inc: cas succeeded although the child no longer holds the expected value" <|
      let s2 := (vEff s1 e.tid th.idx (.inc c)).1
      .ok { s2 with ths := s2.ths.set e.tid { th with pc := none, retv := some "" } }
    else
      guard (e.res == s.spec.vals.getD c 0) "inc: failed cas reports a wrong current value" <|
      .ok { s1 with ths := s1.ths.set e.tid { th with pc := some (.incRetry c e.res) } }

def vStep (s : VSt) (e : Ev) : Except String VSt :=
  match s.ths[e.tid]? with
  | none => .error "no such thread"
  | some th =>
    match th.pc with
    | none => .error "event outside a call"
    | some pc =>
      let setTh (s : VSt) (th : Th VPc) : VSt := { s with ths := s.ths.set e.tid th }
      let key (op : String) := opArg op
      match pc with
      | .start op =>
        let n := opName op
        if n == "with" then
          guard (e.k == "R" && e.loc == "lk") "with: expected read lock" <|
          guard s.lockW.isNone "read lock granted while a writer holds the lock" <|
          -- a hit takes effect here (the lookup under the read lock); a miss has no effect yet
          match s.spec.lookup (key op) with
          | some _ =>
            let (s1, r) := vEff s e.tid th.idx (.getOrCreate (key op))
            .ok (setTh { s1 with lockR := e.tid :: s1.lockR } { th with pc := some (.rheld op (match r with | .child c => some c | _ => none)) })
          | none => .ok (setTh { s with lockR := e.tid :: s.lockR } { th with pc := some (.rheld op none) })
        else if n == "collect" then
          guard (e.k == "R" && e.loc == "lk") "collect: expected read lock" <|
          guard s.lockW.isNone "read lock granted while a writer holds the lock" <|
          let (s1, r) := vEff s e.tid th.idx .keys
          let ks := match r with | .keys l => l | _ => []
          .ok (setTh { s1 with lockR := e.tid :: s1.lockR } { th with pc := some (.collecting ks []) })
        else if n == "rm" && e.k == "R" then
          -- `rm` may first look the key up under the READ lock (like `with`): an absent key takes effect here - the
          -- specification's remove of an absent key returns "absent" and changes nothing -, the call is complete once the
          -- read lock is released and no write lock is taken; a present key commits nothing yet
          guard (e.loc == "lk") "rm: expected read lock on lk" <|
          guard s.lockW.isNone "read lock granted while a writer holds the lock" <|
          match s.spec.lookup (key op) with
          | none =>
            let (s1, r) := vEff s e.tid th.idx (.remove (key op))
            let rv := match r with | .ok => "ok" | .err => "err" | _ => ""
            .ok (setTh { s1 with lockR := e.tid :: s1.lockR } { th with pc := some (.rmRheld op (some rv)) })
          | some _ => .ok (setTh { s with lockR := e.tid :: s.lockR } { th with pc := some (.rmRheld op none) })
        else if n == "reset" && e.k == "R" then
          -- `reset` may first check under the READ lock whether the map is empty: a reset of an empty vector takes effect
          -- here - the specification's reset of an empty map changes nothing -, the call is complete once the read lock is
          -- released and no write lock is taken; a non-empty map commits nothing yet
          guard (e.loc == "lk") "reset: expected read lock on lk" <|
          guard s.lockW.isNone "read lock granted while a writer holds the lock" <|
          if s.spec.map.isEmpty then
            let (s1, r) := vEff s e.tid th.idx .reset
            let rv := match r with | .ok => "ok" | .err => "err" | _ => ""
            .ok (setTh { s1 with lockR := e.tid :: s1.lockR } { th with pc := some (.rmRheld op (some rv)) })
          else .ok (setTh { s with lockR := e.tid :: s.lockR } { th with pc := some (.rmRheld op none) })
        else if n == "rm" || n == "reset" then
          guard (e.k == "X" && e.loc == "lk") s!"{n}: expected write lock" <|
          guard (s.lockW.isNone && s.lockR.isEmpty) "write lock granted while the lock is held" <|
          let (s1, r) := vEff s e.tid th.idx (if n == "reset" then .reset else .remove (key op))
          let rv := match r with | .ok => "ok" | .err => "err" | _ => ""
          .ok (setTh { s1 with lockW := some e.tid } { th with pc := some (.wheld op rv) })
        else .error s!"unknown op {op}"
      | .rheld op hit =>
        guard (e.k == "r" && e.loc == "lk") "with: expected read unlock" <|
        let s1 := { s with lockR := s.lockR.erase e.tid }
        match hit with
        | some c => .ok (setTh (setHandle s1 e.tid c) { th with pc := none, retv := some "h" })
        | none => .ok (setTh s1 { th with pc := some (.needW op) })
      | .needW op =>
        guard (e.k == "X" && e.loc == "lk") "with: expected write lock after a miss" <|
        guard (s.lockW.isNone && s.lockR.isEmpty) "write lock granted while the lock is held" <|
        -- get-or-create under the write lock: the key is looked up AGAIN; a child is built and inserted only if still absent
        let (s1, r) := vEff s e.tid th.idx (.getOrCreate (key op))
        match r with
        | .child c => .ok (setTh (setHandle { s1 with lockW := some e.tid } e.tid c) { th with pc := some (.wheld op "h") })
        | _ => .error "internal: get-or-create returned no child"
      | .wheld _ res =>
        guard (e.k == "x" && e.loc == "lk") "expected write unlock" <|
        .ok (setTh { s with lockW := none } { th with pc := none, retv := some res })
      | .incChild c =>
        -- an update through a handle: one `fetch_add`, or - beginning with a load - a load + compare-exchange loop
        if e.k == "L" then vIncLoad s e th c else vIncAdd s e th c
      | .incCas c cur => vIncCas s e th c cur
      | .incRetry c cur =>
        -- after a failed compare-exchange that reported `cur`: a load is treated exactly as at `incChild`, anything
        -- else exactly as at `incCas c cur`
        if e.k == "L" then vIncLoad s e th c else vIncCas s e th c cur
      | .collecting ks reads =>
        let todo := ks.map (·.2)
        if e.k == "L" then
          -- a value read of one of the children that were in the map when the lock was taken. A location that has been
          -- identified (by an update through a handle) is that child's cell; a location not seen before is the cell of
          -- one of the not-yet-located children holding the value read - which one is settled at the unlock, when the
          -- reads are attributed to the children (`assignReads`); candidates hold the same value, so the result of the
          -- collect does not depend on the choice.
          let cands := match s.binding.find? (·.1 == e.loc) with
            | some (_, c) => if todo.contains c && s.spec.vals.getD c 0 == e.res then [c] else []
            | none => todo.filter fun c => !(s.binding.any (·.2 == c)) && s.spec.vals.getD c 0 == e.res
          guard (!cands.isEmpty) s!"collect reads {e.loc}, not (the current value of) a child that is in the map" <|
          .ok (setTh s { th with pc := some (.collecting ks ((e.loc, e.res, cands) :: reads)) })
        else
          guard (e.k == "r" && e.loc == "lk") "collect: expected child load or read unlock" <|
          guard (reads.length == todo.length) "collect released the lock before reading every child (or read one twice)" <|
          match assignReads s.binding reads.reverse todo with
          | none => .error "collect: the values read cannot be attributed to the children that were in the map"
          | some asg =>
            let strs := sortKeys (asg.map fun cv => (((ks.find? (·.2 == cv.1)).map (·.1)).getD "?") ++ "=" ++ toString cv.2.toNat)
            .ok (setTh { s with lockR := s.lockR.erase e.tid } { th with pc := none, retv := some ("+".intercalate strs) })
      | .rmRheld op done =>
        guard (e.k == "r" && e.loc == "lk") "rm / reset: expected read unlock" <|
        let s1 := { s with lockR := s.lockR.erase e.tid }
        match done with
        | some rv => .ok (setTh s1 { th with pc := none, retv := some rv })
        | none => .ok (setTh s1 { th with pc := some (.rmNeedW op) })
      | .rmNeedW op =>
        -- remove under the write lock: the key is looked up AGAIN (`remove(..).is_some()` decides the outcome; a
        -- concurrent remove / reset in the gap makes it report absent); reset under the write lock: the map is cleared,
        -- whatever it holds by then
        guard (e.k == "X" && e.loc == "lk") "rm / reset: expected write lock after the pre-check found something to remove" <|
        guard (s.lockW.isNone && s.lockR.isEmpty) "write lock granted while the lock is held" <|
        let (s1, r) := vEff s e.tid th.idx (if opName op == "reset" then .reset else .remove (key op))
        let rv := match r with | .ok => "ok" | .err => "err" | _ => ""
        .ok (setTh { s1 with lockW := some e.tid } { th with pc := some (.wheld op rv) })

def vItem (s : VSt) : Item → Except String VSt
  | .ev e => vStep s e
  | .call t i op =>
    match s.ths[t]? with
    | none => .error "no such thread"
    | some th =>
      if op == "hinc" then
        -- an update through the handle this thread obtained last, kept across removals / resets; no step at all without one
        match s.handle.find? (·.1 == t) with
        | some (_, c) => match openCall th i op (fun _ => some (.incChild c)) (fun _ => false) with
          | .ok th' => .ok { s with ths := s.ths.set t th' }
          | .error e => .error e
        | none => match openCall th i op (fun _ => none) (fun _ => true) with
          | .ok th' => .ok { s with ths := s.ths.set t th' }
          | .error e => .error e
      else if op == "inc" then
        -- update through the handle obtained by the preceding `with` of this thread (index "<i>u")
        if th.pc.isSome || th.retv.isSome then .error "call while another call is open" else
        match s.handle.find? (·.1 == t) with
        | some (_, c) => .ok { s with ths := s.ths.set t { th with pc := some (.incChild c) } }
        | none => .error "inc without a handle"
      else match openCall th i op (fun op => some (.start op)) (fun _ => false) with
        | .ok th' => .ok { s with ths := s.ths.set t th' }
        | .error e => .error e
  | .ret t i v =>
    match s.ths[t]? with
    | none => .error "no such thread"
    | some th =>
      if i.endsWith "u" then
        match th.retv with
        | some _ => .ok { s with ths := s.ths.set t { th with retv := none } }
        | none => .error "inc returned before its step"
      else match closeCall th i v with
        | .ok th' => .ok { s with ths := s.ths.set t th' }
        | .error e => .error e
  | .other x => .error s!"unparsed trace item {x}"

def vecReplay (prog : List (List String)) (trace : List Item) : String :=
  let s0 : VSt := { ths := prog.map fun ops => { ops := ops } }
  match runItems vItem s0 trace 0 with
  | .error e => e
  | .ok s =>
    if allDone s.ths then
      let ks := sortKeys (s.spec.map.map (·.1))
      s!"ok keys={if ks.isEmpty then "-" else "+".intercalate ks}"
    else "incomplete"

/-! ## Histogram (C02, C03): the replay machine is `Prom/Model/HistMachine.lean`, written over the
state of the proof model `Prom/HP` and uses this file's threads, marks, `guard`, `ordGe`, `runItems` and operand
helpers; of the histogram itself this file only provides the constant the two share. -/

def top : UInt64 := 0x8000000000000000

end Prom.Conc
