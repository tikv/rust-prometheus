import Prom.Model.Text
/-
An independent reader of Prometheus text format 0.0.4 (the specification side of C04):
lines split at LF; `# HELP name docstring`, `# TYPE name type`, sample lines
`name{label="value",…} value [timestamp]`; escapes `\\`, `\n` (and `\"` in label values);
values by an exact decimal-to-binary64 conversion (round to nearest, ties to even; `NaN`, `±Inf`);
`_bucket` / `_sum` / `_count` and `quantile` lines regrouped into histogram and summary samples.
Nothing here is shared with the encoder model but `Text.bs` (a string literal as bytes).
-/
namespace Prom.TextParse
open Prom Prom.Text

/-! ### decimal → binary64, exactly -/

def pow2 (n : Nat) : Nat := 2 ^ n

/-- nearest binary64 (ties to even) to the positive rational `num / den` (`num, den > 0`) -/
def ratToF64Bits (num den : Nat) : UInt64 :=
  -- binary exponent e with 2^52 <= num/den / 2^e < 2^53, clamped at -1074
  let a : Int := Nat.log2 num
  let b : Int := Nat.log2 den
  let e0 : Int := max (-1074) (a - b - 53)
  let quot (e : Int) : Nat × Nat × Nat :=          -- (q, r, d) with num/den/2^e = q + r/d
    let n' := if e < 0 then num * pow2 (-e).toNat else num
    let d' := if e < 0 then den else den * pow2 e.toNat
    (n' / d', n' % d', d')
  let rec adj (fuel : Nat) (e : Int) : Int :=
    match fuel with
    | 0 => e
    | f + 1 => if (quot e).1 ≥ pow2 53 then adj f (e + 1) else e
  let e := adj 4 e0
  let (q, r, d) := quot e
  let q1 := if 2 * r > d then q + 1 else if 2 * r == d then (if q % 2 == 1 then q + 1 else q) else q
  let (q2, e2) := if q1 ≥ pow2 53 then (q1 / 2, e + 1) else (q1, e)
  if q2 ≥ pow2 52 then
    let biased := e2 + 52 + 1023
    if biased ≥ 2047 then 0x7FF0000000000000       -- overflow: +Inf
    else (biased.toNat * pow2 52 + (q2 - pow2 52)).toUInt64
  else q2.toUInt64                                  -- subnormal (e = -1074)

def isDigit (b : UInt8) : Bool := 48 ≤ b && b ≤ 57
def digitsVal (ds : List UInt8) : Nat := ds.foldl (fun acc d => acc * 10 + (d.toNat - 48)) 0

def lower (b : UInt8) : UInt8 := if 65 ≤ b && b ≤ 90 then b + 32 else b

/-- `[+-]?(digits)(.digits)?([eE][+-]?digits)?` or NaN / Inf spellings -/
def parseFloat (s : Str) : Option UInt64 :=
  let (neg, r) := match s with
    | 45 :: r => (true, r)
    | 43 :: r => (false, r)
    | r => (false, r)
  let sign : UInt64 := if neg then 0x8000000000000000 else 0
  let lw := r.map lower
  if lw == bs "nan" then some 0x7FF8000000000000
  else if lw == bs "inf" || lw == bs "infinity" then some (sign ||| 0x7FF0000000000000)
  else
    let ip := r.takeWhile isDigit
    let r1 := r.dropWhile isDigit
    let (fp, r2) := match r1 with
      | 46 :: t => (t.takeWhile isDigit, t.dropWhile isDigit)
      | t => ([], t)
    if ip.isEmpty && fp.isEmpty then none else
    let ex? : Option Int := match r2 with
      | [] => some 0
      | c :: t =>
        if c == 101 || c == 69 then
          let (eneg, t') := match t with
            | 45 :: u => (true, u)
            | 43 :: u => (false, u)
            | u => (false, u)
          if t'.isEmpty || !t'.all isDigit then none
          else some (if eneg then -(digitsVal t' : Int) else (digitsVal t' : Int))
        else none
    match ex? with
    | none => none
    | some ex =>
      let m := digitsVal (ip ++ fp)
      if m == 0 then some sign else
      let e10 : Int := ex - fp.length
      let (num, den) := if e10 ≥ 0 then (m * 10 ^ e10.toNat, 1) else (m, 10 ^ (-e10).toNat)
      some (sign ||| ratToF64Bits num den)

def parseInt (s : Str) : Option Int :=
  match s with
  | 45 :: r => if r.isEmpty || !r.all isDigit then none else some (-(digitsVal r : Int))
  | r => if r.isEmpty || !r.all isDigit then none else some (digitsVal r : Int)

/-! ### lexical layer -/

/-- split at LF; the text must end with LF (or be empty) -/
def splitLines (t : Str) : Option (List Str) :=
  let rec go (cur : Str) : Str → List Str → Option (List Str)
    | [], acc => if cur.isEmpty then some acc.reverse else none
    | b :: r, acc => if b == 10 then go [] r (cur.reverse :: acc) else go (b :: cur) r acc
  go [] t []

/-- undo `\\`, `\n` (and `\"` when `quote`); any other backslash sequence is an error -/
def unescape (quote : Bool) : Str → Option Str
  | [] => some []
  | 92 :: 92 :: r => (unescape quote r).map (92 :: ·)
  | 92 :: 110 :: r => (unescape quote r).map (10 :: ·)
  | 92 :: 34 :: r => if quote then (unescape quote r).map (34 :: ·) else none
  | 92 :: _ => none
  | b :: r => (unescape quote r).map (b :: ·)

def isNameStart (b : UInt8) : Bool := (65 ≤ b && b ≤ 90) || (97 ≤ b && b ≤ 122) || b == 95 || b == 58
def isNameByte (b : UInt8) : Bool := isNameStart b || isDigit b

/-- read a quoted label value: returns (raw escaped content, rest after the closing quote) -/
def readQuoted : Str → Str → Option (Str × Str)
  | [], _ => none
  | 92 :: c :: r, acc => readQuoted r (c :: 92 :: acc)
  | 34 :: r, acc => some (acc.reverse, r)
  | b :: r, acc => readQuoted r (b :: acc)

/-- `{name="value",…}` (cursor after `{`) -/
def readLabels (fuel : Nat) (s : Str) (acc : List (Str × Str)) : Option (List (Str × Str) × Str) :=
  match fuel with
  | 0 => none
  | fuel + 1 =>
    match s with
    | 125 :: r => some (acc.reverse, r)                 -- `}`
    | _ =>
      let n := s.takeWhile isNameByte
      let r := s.dropWhile isNameByte
      if n.isEmpty then none else
      match r with
      | 61 :: 34 :: r1 =>                               -- `="`
        match readQuoted r1 [] with
        | none => none
        | some (raw, r2) =>
          match unescape true raw with
          | none => none
          | some v =>
            match r2 with
            | 44 :: r3 => readLabels fuel r3 ((n, v) :: acc)   -- `,`
            | 125 :: r3 => some (((n, v) :: acc).reverse, r3)
            | _ => none
      | _ => none

structure PSample where
  name : Str
  labels : List (Str × Str)
  value : UInt64
  ts : Int
deriving Repr, BEq, DecidableEq

inductive Line
  | help (name doc : Str)
  | type (name ty : Str)
  | sample (s : PSample)
deriving Repr, BEq, DecidableEq

def splitSpace (s : Str) : Str × Str := (s.takeWhile (· != 32), (s.dropWhile (· != 32)).drop 1)

def parseSampleLine (l : Str) : Option PSample :=
  let name := l.takeWhile isNameByte
  let r := l.dropWhile isNameByte
  if name.isEmpty then none else
  let lr : Option (List (Str × Str) × Str) := match r with
    | 123 :: r1 => readLabels (r1.length + 1) r1 []
    | _ => some ([], r)
  match lr with
  | none => none
  | some (labels, r2) =>
    match r2 with
    | 32 :: r3 =>
      let (vtxt, r4) := splitSpace r3
      match parseFloat vtxt with
      | none => none
      | some v =>
        if r4.isEmpty then
          -- distinguish "value" from "value " (trailing blank): the latter is malformed
          if r3.length == vtxt.length then some ⟨name, labels, v, 0⟩ else none
        else match parseInt r4 with
          | some t => some ⟨name, labels, v, t⟩
          | none => none
    | _ => none

def dropBlanks (s : Str) : Str := s.dropWhile fun b => b == 32 || b == 9

def parseLine (l : Str) : Option Line :=
  if (bs "# HELP ").isPrefixOf l then
    let r := l.drop 7
    let (name, doc) := splitSpace r
    match unescape false (dropBlanks doc) with
    | some d => some (.help name d)
    | none => none
  else if (bs "# TYPE ").isPrefixOf l then
    let r := l.drop 7
    let (name, ty) := splitSpace r
    some (.type name ty)
  else (parseSampleLine l).map .sample

def parseType (t : Str) : Option MType :=
  if t == bs "counter" then some .counter else if t == bs "gauge" then some .gauge
  else if t == bs "summary" then some .summary else if t == bs "untyped" then some .untyped
  else if t == bs "histogram" then some .histogram else none

/-! ### grouping lines into families -/

def toPairs (l : List (Str × Str)) : List LabelPair := l.map fun p => ⟨p.1, p.2⟩

/-- builder state for the family being read -/
structure Cur where
  name : Str
  help : Str
  ty : MType
  samples : List Sample := []            -- newest first
  buckets : List (UInt64 × Nat) := []    -- pending histogram buckets / summary quantiles, newest first
  quants : List (UInt64 × UInt64) := []
  sum : Option UInt64 := none

def f64ToNat? (bits : UInt64) : Option Nat :=
  -- a count printed as a float: must be a non-negative integer below 2^53 (exactly representable)
  if bits == 0 then some 0 else
  let e := ((bits >>> 52) &&& 0x7FF).toNat
  let m := (bits &&& 0xFFFFFFFFFFFFF).toNat + pow2 52
  if bits ≥ 0x8000000000000000 || e < 1023 || e > 1023 + 52 then none
  else
    let sh := 52 - (e - 1023)
    if m % pow2 sh == 0 then some (m / pow2 sh) else none

def stripLast (labels : List (Str × Str)) (key : Str) : Option (List (Str × Str) × Str) :=
  match labels.reverse with
  | (k, v) :: r => if k == key then some (r.reverse, v) else none
  | [] => none

/-- add one sample line to the family being read -/
def addSample (c : Cur) (s : PSample) : Option Cur :=
  match c.ty with
  | .counter => if s.name == c.name then some { c with samples := ⟨toPairs s.labels, .counter s.value, s.ts⟩ :: c.samples } else none
  | .gauge => if s.name == c.name then some { c with samples := ⟨toPairs s.labels, .gauge s.value, s.ts⟩ :: c.samples } else none
  | .untyped => if s.name == c.name then some { c with samples := ⟨toPairs s.labels, .untyped s.value, s.ts⟩ :: c.samples } else none
  | .histogram =>
    if s.name == c.name ++ bs "_bucket" then
      match stripLast s.labels (bs "le") with
      | none => none
      | some (_, le) => match parseFloat le, f64ToNat? s.value with
        | some ub, some n => some { c with buckets := (ub, n) :: c.buckets }
        | _, _ => none
    else if s.name == c.name ++ bs "_sum" then some { c with sum := some s.value }
    else if s.name == c.name ++ bs "_count" then
      match f64ToNat? s.value, c.sum with
      | some n, some sum => some { c with samples := ⟨toPairs s.labels, .hist n sum c.buckets.reverse, s.ts⟩ :: c.samples, buckets := [], sum := none }
      | _, _ => none
    else none
  | .summary =>
    if s.name == c.name ++ bs "_sum" then some { c with sum := some s.value }
    else if s.name == c.name ++ bs "_count" then
      match f64ToNat? s.value, c.sum with
      | some n, some sum => some { c with samples := ⟨toPairs s.labels, .summary n sum c.quants.reverse, s.ts⟩ :: c.samples, quants := [], sum := none }
      | _, _ => none
    else if s.name == c.name then
      match stripLast s.labels (bs "quantile") with
      | none => none
      | some (_, q) => match parseFloat q with
        | some qv => some { c with quants := (qv, s.value) :: c.quants }
        | none => none
    else none

def Cur.finish (c : Cur) : Option Family :=
  if c.buckets.isEmpty && c.quants.isEmpty && c.sum.isNone then
    some { name := c.name, help := c.help, ty := c.ty, samples := c.samples.reverse }
  else none

/-- fold the lines: `# HELP` (optional) then `# TYPE` open a family, sample lines fill it -/
def group : List Line → Option Cur → Option (Str × Str) → List Family → Option (List Family)
  | [], cur, pendingHelp, acc =>
    if pendingHelp.isSome then none else
    match cur with
    | none => some acc.reverse
    | some c => (c.finish).map fun f => (f :: acc).reverse
  | .help n d :: r, cur, pendingHelp, acc =>
    if pendingHelp.isSome then none else
    match cur with
    | none => group r none (some (n, d)) acc
    | some c => match c.finish with
      | some f => group r none (some (n, d)) (f :: acc)
      | none => none
  | .type n t :: r, cur, pendingHelp, acc =>
    match parseType t with
    | none => none
    | some ty =>
      let help? : Option Str := match pendingHelp with
        | some (hn, d) => if hn == n then some d else none
        | none => some []
      match help? with
      | none => none
      | some h =>
        match cur with
        | none => group r (some { name := n, help := h, ty := ty }) none acc
        | some c => match c.finish with
          | some f => group r (some { name := n, help := h, ty := ty }) none (f :: acc)
          | none => none
  | .sample s :: r, cur, pendingHelp, acc =>
    if pendingHelp.isSome then none else
    match cur with
    | none => none
    | some c => match addSample c s with
      | some c' => group r (some c') none acc
      | none => none

/-- the reader: text ↦ families -/
def parse (t : Str) : Option (List Family) :=
  match splitLines t with
  | none => none
  | some ls => match ls.mapM parseLine with
    | none => none
    | some lines => group lines none none []

/-! ### what a faithful rendering reads back as -/

def canonF64 (b : UInt64) : UInt64 := if f64IsNaN b then 0x7FF8000000000000 else b

def canonVal : MVal → MVal
  | .counter v => .counter (canonF64 v)
  | .gauge v => .gauge (canonF64 v)
  | .untyped v => .untyped (canonF64 v)
  | .hist c s bks =>
    let bks' := bks.map fun b => (canonF64 b.1, b.2)
    .hist c (canonF64 s) (if bks.any (fun b => f64IsPosInf b.1) then bks' else bks' ++ [(f64PosInf, c)])
  | .summary c s qs => .summary c (canonF64 s) (qs.map fun q => (canonF64 q.1, canonF64 q.2))

def canon (fams : List Family) : List Family :=
  fams.map fun f => { f with samples := f.samples.map fun s => { s with val := canonVal s.val } }

end Prom.TextParse
