import Prom.Base.F64
/-
Sequential model of src/histogram.rs: bucket validation, first-match bucketing,
cumulative collection, bucket helper functions, LocalHistogramCore.
Floats are 64-bit patterns; the order is `Base/F64`; the addition of observed values is a parameter (`add`),
the bucket helper functions use `f64Add` / `f64Mul`.
-/
namespace Prom

/-- `check_and_adjust_buckets` loop: every element is a number and `a >= b`
    fails for every adjacent pair. -/
def bucketsOk : List UInt64 → Bool
  | [] => true
  | [a] => !f64IsNaN a
  | a :: b :: r => !f64IsNaN a && !f64Ge a b && bucketsOk (b :: r)

/-- drop a trailing `+Inf` (the implicit bucket) -/
def dropTrailingInf (bs : List UInt64) : List UInt64 :=
  match bs.getLast? with
  | some t => if f64IsPosInf t then bs.dropLast else bs
  | none => bs

/-- `check_and_adjust_buckets`; `none` = `Err(Msg)`. `defaults` = `DEFAULT_BUCKETS`. -/
def checkAndAdjust (defaults bs : List UInt64) : Option (List UInt64) :=
  let bs := if bs.isEmpty then defaults else bs
  if bucketsOk bs then some (dropTrailingInf bs) else none

/-- `upper_bounds.iter().enumerate().filter(|(_, f)| v <= *f).next()` -/
def findBucket : List UInt64 → UInt64 → Option Nat
  | [], _ => none
  | b :: r, v => if f64Le v b then some 0 else (findBucket r v).map (· + 1)

def bumpAt : List Nat → Nat → Nat → List Nat
  | [], _, _ => []
  | c :: r, 0, d => (c + d) :: r
  | c :: r, i + 1, d => c :: bumpAt r i d

structure Hist where
  bounds : List UInt64
  counts : List Nat      -- per bucket, not cumulative
  count : Nat
  sum : UInt64
deriving Repr

def Hist.new (bounds : List UInt64) : Hist :=
  { bounds, counts := List.replicate bounds.length 0, count := 0, sum := f64Zero }

def Hist.observe (add : UInt64 → UInt64 → UInt64) (h : Hist) (v : UInt64) : Hist :=
  { h with
    counts := match findBucket h.bounds v with
      | some i => bumpAt h.counts i 1
      | none => h.counts
    count := h.count + 1
    sum := add h.sum v }

/-- running cumulative counts, as `proto()` builds them -/
def cumulate : Nat → List Nat → List Nat
  | _, [] => []
  | acc, c :: r => (acc + c) :: cumulate (acc + c) r

structure Snap where
  count : Nat
  sum : UInt64
  cum : List Nat
deriving Repr, BEq, DecidableEq

def Hist.snap (h : Hist) : Snap := { count := h.count, sum := h.sum, cum := cumulate 0 h.counts }

def Hist.observeAll (add : UInt64 → UInt64 → UInt64) (h : Hist) (vs : List UInt64) : Hist :=
  vs.foldl (Hist.observe add) h

/-- `linear_buckets`; `none` = Err. Entry `step` is `start + width * (step as f64)`. -/
def linearBuckets (start width : UInt64) (count : Nat) : Option (List UInt64) :=
  if count < 1 then none
  else if f64Le width f64Zero then none
  else some ((List.range count).map fun step => f64Add start (f64Mul width (f64OfNat step)))

def expLoop (factor : UInt64) : Nat → UInt64 → List UInt64
  | 0, _ => []
  | n + 1, next => next :: expLoop factor n (f64Mul next factor)

def f64One : UInt64 := 0x3FF0000000000000

/-- `exponential_buckets` -/
def exponentialBuckets (start factor : UInt64) (count : Nat) : Option (List UInt64) :=
  if count < 1 then none
  else if f64Le start f64Zero then none
  else if f64Le factor f64One then none
  else some (expLoop factor count start)

end Prom
