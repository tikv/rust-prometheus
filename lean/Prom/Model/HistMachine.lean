import Prom.HP.Basic
import Prom.Model.Conc
/-
The executable replay machine for the histogram (area `chist`; C02, C03), written *over the state
of the proof model* `Prom/HP/Basic.lean`: the shared part of the machine's state is an `Hp.St`
(`hot`, `n`, both shards as count + cells, the lock, and the ghost lists `claimed`, `asg`, `snaps`),
and every thread that is inside an API call carries the `Hp.Task` that call currently is. An event
observed on the real implementation (one atomic / lock operation reported by the cfg(prometheus_verif)
shim) is accepted only if it is exactly the operation that task performs next — same kind, location,
memory ordering at least as strong, operands, and the value the model's memory holds — and then the
machine performs the corresponding `Hp.Step`. `Prom/Lemmas/HistRefine.lean` proves that every accepted
item is a stutter, one `Hp.Step` or (see (b)) two `Hp.Step`s of the abstraction, so every state the
machine reaches while replaying a real trace satisfies the theorems of C02 / C03.

Four freedoms the real code has are accepted (all behaviour-preserving):
(a) the cell updates of one observation / one flushed batch may come in ANY order (`pick`: the event's
    location selects the entry of the task's list; the first such entry if a cell occurs twice; an event
    that addresses no entry is checked against the head and rejected). The compare-exchange loop on the
    sum keeps its state (`cur`, `failed`) across bucket updates of the same observation, so bucket
    updates may also fall between the loop's load and its compare-exchange.
(b) a collector may skip the `fetch_add(0)` of `addHot c` on a bucket out of which it swapped 0
    (`skipTask`): the machine takes the abstract `addHot` step (it adds 0) itself, right after the swap
    that read the 0, and remembers the bucket (`Pc.zeros`): if the code does issue the `fetch_add(0)`
    later, it is accepted once, as a stutter.
(c) every `fetch_add` on an integer cell (claim and flip on shard_and_count, bucket updates, publish and
    `addCount` on a shard's count) may be written as a load + compare-exchange loop (`fetchAdd`): the
    successful exchange carries the site's ordering and is the step; loads and failed exchanges are stutters.
(d) a collector between its successful spin and its unlock may take its steps in ANY order subject to:
    every cold cell is swapped out once, a drained value is added to the hot cell only after that cell's
    swap, `unlock` comes last (`colStep`: the event's location selects the step of the task's list).
    While it spins, a load of the cold count before a compare-exchange attempt is a stutter.

Memory cells are exact integers (`Nat` counts, `Int` cells). Events carry 64-bit patterns: the
machine compares them with the *encoding* of its own value (`encSc` for shard_and_count, `u64OfInt`
for counts and buckets, `f64OfInt` for the f64 sum) and rejects a run that leaves the range in which
the encodings are exact (2^63 observations, sums beyond 2^53, non-integer values): such runs are
outside the model, they are not accepted silently.
-/
namespace Prom.HM
open Prom Prom.Conc Hp

inductive Loc
  | sc | lk | cnt (b : Bool) | sum (b : Bool) | bkt (b : Bool) (i : Nat) | bad
deriving DecidableEq, Repr

def shardOfChar (d : Char) : Option Bool := if d == '0' then some false else if d == '1' then some true else none

def parseLoc (s : String) : Loc :=
  match s.toList with
  | ['s', 'c'] => .sc
  | ['l', 'k'] => .lk
  | ['s', d, 'c'] => match shardOfChar d with | some b => .cnt b | none => .bad
  | ['s', d, 's'] => match shardOfChar d with | some b => .sum b | none => .bad
  | 's' :: d :: 'b' :: r =>
    match shardOfChar d, (String.ofList r).toNat? with
    | some b, some i => .bkt b i
    | _, _ => .bad
  | _ => .bad

structure Pc where
  op : String                      -- "obs" | "flush" | "collect" | "count" | "sum"
  task : Option Task               -- the proof model's task this call currently is (`count`: none)
  cur : Option Int := none         -- a compare-exchange loop on a sum cell has loaded this value
  failed : Bool := false           -- `cur` is the value a FAILED compare-exchange reported: the loop may also load again
  icur : Option UInt64 := none     -- a compare-exchange loop standing for a `fetch_add` on an integer cell has loaded this pattern
  ifailed : Bool := false          -- `icur` is the pattern a FAILED compare-exchange reported: the loop may also load again
  stage : Nat := 0                 -- `sum`: 0 lock held, 1 hot shard known, 2 value read
  b : Bool := false                -- `sum`: the shard it learned
  val : Int := 0                   -- `sum`: the value it read
  c0 : List Obs := []              -- ghost: `claimed` when the call started
  zeros : List Nat := []           -- `collect`: buckets out of which 0 was swapped and whose `addHot` (of 0) was taken silently

/-- ghost record of one returned snapshot: `claimed` when the collect call started, the cut, `claimed`
    at the unlock, and the value the call returns -/
structure CutRec where
  c0 : List Obs
  cut : List Obs
  c1 : List Obs
  rv : String

abbrev Cuts := List CutRec

structure St where
  bounds : List UInt64
  core : Hp.St                     -- shared state and ghost lists; `core.tasks` is not used (see `abs`)
  ths : List (Th Pc)
  cuts : List CutRec := []         -- ghost, one per returned snapshot
  tags : List (Nat × Nat) := []    -- ghost, parallel to `core.claimed`: (thread id, call index) of the call that claimed

def taskOf (th : Th Pc) : Option Task := th.pc.bind (·.task)

/-- the state of the proof model this machine state stands for -/
def abs (s : St) : Hp.St := { s.core with tasks := s.ths.filterMap taskOf }

def encSc (hot : Bool) (n : Nat) : UInt64 := (if hot then top else 0) + n.toUInt64
def sumRange (i : Int) : Bool := decide (-9007199254740992 < i) && decide (i < 9007199254740992)

/-- what an accepted event does: new shared state, new call state, `some rv` = the call is complete -/
abbrev Res := Hp.St × Pc × Option String

def showSnap (k : Nat) (ov : Nat) (taken : Cells) : String :=
  let cum := ((List.range k).foldl (fun (acc : List Nat × Nat) i => (acc.1 ++ [acc.2 + (taken i).toNat], acc.2 + (taken i).toNat)) ([], 0)).1
  s!"{ov}/{hexStr (f64OfInt (taken k))}/{"+".intercalate (cum.map toString)}"

/-- the load of a compare-exchange loop on the sum cell of shard `b`, which holds `x` -/
def casLoad (e : Ev) (c : Hp.St) (pc : Pc) (b : Bool) (x : Int) : Except String Res :=
  guard (e.k == "L" && parseLoc e.loc == .sum b && ordGe e.ord "Acquire" && sumRange x && e.res == f64OfInt x)
    s!"sum add: expected load Acquire of shard {b} sum -> {hexStr (f64OfInt x)}"
    (.ok (c, { pc with cur := some x, failed := false }, none))

/-- a compare-exchange loop adding `a` to the sum cell `cell` of shard `b` (load, then cas with retry).
    `onOk` is what a successful exchange does to the shared state and the task. After a failed
    exchange both ways of writing the loop are accepted: loading again, or retrying at once with the
    value the failed exchange reported (`Err(v) => cur = v`). -/
def casLoop (e : Ev) (c : Hp.St) (pc : Pc) (b : Bool) (cell : Nat) (a : Int) (onOk : Res) : Except String Res :=
  let x := (c.sh b).cell cell
  match pc.cur with
  | none => casLoad e c pc b x
  | some cur =>
    if pc.failed && e.k == "L" then casLoad e c pc b x else
    guard (e.k == "C" && parseLoc e.loc == .sum b && ordGe e.ord "Release" && sumRange cur && sumRange (cur + a) &&
           e.a == f64OfInt cur && e.b == f64OfInt (cur + a))
      s!"sum add: expected cas Release {hexStr (f64OfInt cur)} -> {hexStr (f64OfInt (cur + a))}" <|
      if e.ok then
        guard (decide (x = cur)) "sum cas succeeded on a changed value" (.ok onOk)
      else
        guard (sumRange x && e.res == f64OfInt x) "failed sum cas reports a wrong current value"
          (.ok (c, { pc with cur := some x, failed := true }, none))

/-- the load of a compare-exchange loop that stands for a `fetch_add` on the integer cell `loc`, which holds
    the pattern `x`: nothing changes, the call remembers the pattern -/
def faLoad (e : Ev) (c : Hp.St) (pc : Pc) (loc : Loc) (x : UInt64) (msg : String) : Except String Res :=
  guard (e.k == "L" && parseLoc e.loc == loc && ordGe e.ord "Relaxed" && e.res == x) msg
    (.ok (c, { pc with icur := some x, ifailed := false }, none))

/-- **one `fetch_add` site** — the generic acceptor used wherever the code adds `a` to an integer cell
    (`shard_and_count`, a bucket, a shard's count), which holds the pattern `x`; `ord` is the ordering the
    site needs, `ok` a side condition of the site (the value stays in the model's range), `onOk` what the
    addition does to the shared state and the task. Accepted: the single `fetch_add` (operand `a`, ordering
    at least `ord`, result `x`); or the same addition written as a compare-exchange loop - a load (any
    ordering), then `compare_exchange(_weak)(cur, cur + a)` (wrapping) with ordering at least `ord`, which
    succeeds only if the cell still holds `cur`, and after a failure (which reports the cell's pattern and
    changes nothing) either loads again or goes on with the reported pattern. A successful exchange is a
    read-modify-write with the site's ordering, exactly like the `fetch_add` it stands for; loads and failed
    exchanges are stutters. -/
def fetchAdd (e : Ev) (c : Hp.St) (pc : Pc) (loc : Loc) (ord : String) (a x : UInt64) (ok : Bool) (msg : String)
    (onOk : Res) : Except String Res :=
  let done : Res := (onOk.1, { onOk.2.1 with icur := none, ifailed := false }, onOk.2.2)
  if e.k == "A" then
    guard (parseLoc e.loc == loc && ordGe e.ord ord && e.a == a && e.res == x && ok && pc.icur.isNone) msg (.ok done)
  else
    match pc.icur with
    | none => faLoad e c pc loc x msg
    | some cur =>
      if pc.ifailed && e.k == "L" then faLoad e c pc loc x msg else
      guard (e.k == "C" && parseLoc e.loc == loc && ordGe e.ord ord && e.a == cur && e.b == cur + a)
        (msg ++ s!" (or, as a loop: cas {ord} {hexStr cur} -> {hexStr (cur + a)})") <|
        if e.ok then
          guard (x == cur && e.res == cur && ok) "cas succeeded although the cell no longer holds the expected value" (.ok done)
        else
          guard (e.res == x) "failed cas reports a wrong current value" (.ok (c, { pc with icur := some x, ifailed := true }, none))

/-- does an event on location `loc` address the cell of the update entry `p` of an observation
    running in shard `b`? (cells `< k` are buckets, the other cell is the sum) -/
def hits (k : Nat) (b : Bool) (loc : Loc) (p : Nat × Int) : Bool :=
  if p.1 < k then loc == .bkt b p.1 else loc == .sum b

/-- split a list at its FIRST entry satisfying `f`: (entries before, that entry, entries after) -/
def splitFirst {α : Type} (f : α → Bool) : List α → Option (List α × α × List α)
  | [] => none
  | p :: l =>
    if f p then some ([], p, l)
    else match splitFirst f l with
      | some (l1, q, l2) => some (p :: l1, q, l2)
      | none => none

/-- the entry of the non-empty update list `p :: l` that an event on `loc` is about: the first entry
    whose cell `loc` addresses; if there is none, the head (whose check then rejects the event).
    Result: (entries before, the entry, entries after). -/
def pick (k : Nat) (b : Bool) (loc : Loc) (p : Nat × Int) (l : List (Nat × Int)) :
    List (Nat × Int) × (Nat × Int) × List (Nat × Int) :=
  (splitFirst (hits k b loc) (p :: l)).getD ([], p, l)

/-- one cell update `(cell, a)` of an observation `o` running in shard `b`; `rest` are the entries
    that remain to be applied afterwards. A bucket is one `fetch_add` (which leaves a sum loop that
    may be in progress as it is), the sum is the compare-exchange loop `casLoop`. -/
def obsEntry (k : Nat) (c : Hp.St) (e : Ev) (pc : Pc) (o : Obs) (b : Bool) (cell : Nat) (a : Int)
    (rest : List (Nat × Int)) : Except String Res :=
  let x := (c.sh b).cell cell
  let c' : Hp.St := { c with sh := modSh c.sh b (fun sd => { sd with cell := setCell sd.cell cell (sd.cell cell + a) }) }
  if cell < k then
    fetchAdd e c pc (.bkt b cell) "Relaxed" (u64OfInt a) (u64OfInt x) true
      s!"{pc.op}: expected fetch_add Relaxed {a} on bucket {cell} of shard {b} -> {x}"
      (c', { pc with task := some (.obsRun o b rest) }, none)
  else casLoop e c pc b cell a (c', { pc with task := some (.obsRun o b rest), cur := none, failed := false }, none)

def plainR (cuts : Cuts) (r : Except String Res) : Except String (Res × Cuts) :=
  match r with | .ok x => .ok (x, cuts) | .error m => .error m

/-- the location a step of a collector whose cold shard is `cold` works on (cells `< k` are buckets, the
    other cell is the sum): a `swap` on the cold shard, an `addHot` on the hot shard -/
def stepLoc (k : Nat) (cold : Bool) : CStep → Loc
  | .swap cell => if cell < k then .bkt cold cell else .sum cold
  | .addHot cell => if cell < k then .bkt (!cold) cell else .sum (!cold)
  | .addCount => .cnt (!cold)
  | .unlock => .lk

def showStep : CStep → String
  | .swap cell => s!"swap {cell}"
  | .addHot cell => s!"add {cell}"
  | .addCount => "addCount"
  | .unlock => "unlock"

/-- a collector may SKIP the no-op `fetch_add(0)` of its step `addHot cell` on a bucket (`cell < k`)
    when the value `x` it swapped out of the cold bucket is 0: `rest` being what is left to do after that
    swap, the result is what is left after the `addHot cell` too (`none`: nothing is skipped - the cell is
    the sum, `x` is not 0, or there is no such step). The machine takes that step (it adds 0, the shared
    state does not change) silently, right after the swap. -/
def skipTask (k cell : Nat) (x : Int) (rest : List CStep) : Option (List CStep) :=
  if decide (cell < k) && decide (x = 0) && !rest.contains (CStep.swap cell) then
    match splitFirst (fun st => st == CStep.addHot cell) rest with
    | some (m1, _, m2) => some (m1 ++ m2)
    | none => none
  else none

/-- what the swap of cell `cell` of the cold shard does (`rest`: what is left to do after it): the cold cell
    is reset, its value is the drained value `taken cell`; if it is a bucket that held 0, the `addHot` of that
    bucket is taken as well (`skipTask`) and the bucket is remembered in `zeros` -/
def swapRes (k : Nat) (c : Hp.St) (pc : Pc) (cold : Bool) (ov cell : Nat) (rest : List CStep) (taken : Cells)
    (S : List Obs) : Res :=
  let x := (c.sh cold).cell cell
  let c' : Hp.St := { c with sh := modSh c.sh cold (fun sd => { sd with cell := setCell sd.cell cell 0 }) }
  match skipTask k cell x rest with
  | some rest' => (c', { pc with task := some (.colMove cold ov rest' (setCell taken cell x) S), zeros := cell :: pc.zeros }, none)
  | none => (c', { pc with task := some (.colMove cold ov rest (setCell taken cell x) S) }, none)

/-- one event of a collector between its successful spin and its unlock (task `colMove cold ov todo taken S`).
    The steps of `todo` may be taken in ANY order: the event's location selects the step (the first step of
    the list on that location; `swap cell` works on the cold shard, `addHot cell` on the hot one), `l1 ++ l2`
    is what remains. Rejected: an event on a location no remaining step works on (so no swap is done twice),
    an `addHot cell` while `swap cell` is still to be done, an `unlock` while anything else is left.
    A swap that reads 0 out of a bucket also takes the `addHot` of that bucket (`skipTask`); the
    `fetch_add(0)` on that hot bucket, should the code issue it, is then accepted once as a stutter (`zeros`). -/
def colStep (k : Nat) (c : Hp.St) (cuts : Cuts) (e : Ev) (pc : Pc) (cold : Bool) (ov : Nat) (todo : List CStep)
    (taken : Cells) (S : List Obs) : Except String (Res × Cuts) :=
  let plain := plainR cuts
  match splitFirst (fun st => stepLoc k cold st == parseLoc e.loc) todo with
  | some (l1, .swap cell, l2) =>
    let x := (c.sh cold).cell cell
    let r : Res := swapRes k c pc cold ov cell (l1 ++ l2) taken S
    if cell < k then
      plain <| guard (e.k == "W" && parseLoc e.loc == .bkt cold cell && ordGe e.ord "AcqRel" && e.a == 0 && e.res == u64OfInt x)
        s!"collect: expected swap AcqRel 0 on bucket {cell} of shard {cold} -> {x}" (.ok r)
    else
      plain <| guard (e.k == "W" && parseLoc e.loc == .sum cold && ordGe e.ord "AcqRel" && e.a == 0 && sumRange x && e.res == f64OfInt x)
        s!"collect: expected swap AcqRel 0.0 on the sum of shard {cold} -> {hexStr (f64OfInt x)}" (.ok r)
  | some (l1, .addHot cell, l2) =>
    let x := (c.sh (!cold)).cell cell
    let r : Res := ({ c with sh := modSh c.sh (!cold) (fun sd => { sd with cell := setCell sd.cell cell (sd.cell cell + taken cell) }) },
                    { pc with task := some (.colMove cold ov (l1 ++ l2) taken S), cur := none, failed := false }, none)
    if (l1 ++ l2).contains (CStep.swap cell) then
      .error s!"collect: add to cell {cell} of shard {!cold} before cell {cell} of shard {cold} was swapped out"
    else if cell < k then
      plain <| fetchAdd e c pc (.bkt (!cold) cell) "Relaxed" (u64OfInt (taken cell)) (u64OfInt x) true
        s!"collect: expected fetch_add Relaxed {taken cell} on bucket {cell} of shard {!cold} -> {x}" r
    else plain <| casLoop e c pc (!cold) cell (taken cell) r
  | some (l1, .addCount, l2) =>
    plain <| fetchAdd e c pc (.cnt (!cold)) "Relaxed" ov.toUInt64 (c.sh (!cold)).count.toUInt64 true
      s!"collect: expected fetch_add Relaxed {ov} on the count of shard {!cold} -> {(c.sh (!cold)).count}"
      ({ c with sh := modSh c.sh (!cold) (fun sd => { sd with count := sd.count + ov }) },
       { pc with task := some (.colMove cold ov (l1 ++ l2) taken S) }, none)
  | some (l1, .unlock, l2) =>
    if !(l1 ++ l2).isEmpty then
      .error s!"collect: unlock before the collect's last step (left: {", ".intercalate ((l1 ++ l2).map showStep)})"
    else
    match guard (e.k == "k" && parseLoc e.loc == .lk) "collect: expected unlock" (.ok ()) with
    | .error m => .error m
    | .ok () =>
      .ok (({ c with lock := false, snaps := c.snaps ++ [(⟨ov, taken⟩, S)],
                     asg := fun b => if b = cold then [] else c.asg (!cold) ++ c.asg cold },
            { pc with task := none }, some (showSnap k ov taken)),
           cuts ++ [⟨pc.c0, S, c.claimed, showSnap k ov taken⟩])
  | none =>
    match pc.zeros.find? (fun z => parseLoc e.loc == .bkt (!cold) z) with
    | some z =>
      -- the `fetch_add(0)` of an `addHot` the machine has taken silently: a stutter, accepted once
      let x := (c.sh (!cold)).cell z
      plain <| fetchAdd e c pc (.bkt (!cold) z) "Relaxed" 0 (u64OfInt x) true
        s!"collect: expected fetch_add Relaxed 0 on bucket {z} of shard {!cold} -> {x}"
        (c, { pc with zeros := pc.zeros.erase z }, none)
    | none =>
      .error s!"collect: no remaining step works on {e.loc} ({e.k}); left: {", ".intercalate (todo.map showStep)}"

/-- the check of one event against the task the call currently is -/
def evStep1 (k : Nat) (c : Hp.St) (cuts : Cuts) (e : Ev) (pc : Pc) : Except String (Res × Cuts) :=
  let plain := plainR cuts
  match pc.task with
  | none =>
    plain <| guard (pc.op == "count" && e.k == "L" && parseLoc e.loc == .sc && ordGe e.ord "Relaxed" && e.res == encSc c.hot c.n)
      s!"{pc.op}: expected load Relaxed of shard_and_count -> {hexStr (encSc c.hot c.n)}"
      (.ok (c, pc, some (toString c.n)))
  | some (.obsStart o) =>
    plain <| fetchAdd e c pc .sc "Acquire" o.w.toUInt64 (encSc c.hot c.n) (decide (c.n + o.w < 9223372036854775808))
      s!"{pc.op}: expected claim fetch_add Acquire {o.w} on shard_and_count -> {hexStr (encSc c.hot c.n)}"
      ({ c with n := c.n + o.w, claimed := c.claimed ++ [o], asg := modAsg c.asg c.hot (· ++ [o]) },
       { pc with task := some (.obsRun o c.hot o.upd) }, none)
  | some (.obsRun o b (p :: l)) =>
    -- the updates of one observation may come in any order: the event's location selects the entry
    let sp := pick k b (parseLoc e.loc) p l
    plain <| obsEntry k c e pc o b sp.2.1.1 sp.2.1.2 (sp.1 ++ sp.2.2)
  | some (.obsRun o b []) =>
    plain <| fetchAdd e c pc (.cnt b) "Release" o.w.toUInt64 (c.sh b).count.toUInt64 true
      s!"{pc.op}: expected publish fetch_add Release {o.w} on the count of shard {b} -> {(c.sh b).count}"
      ({ c with sh := modSh c.sh b (fun sd => { sd with count := sd.count + o.w }) }, { pc with task := none }, some "")
  | some .colWant =>
    plain <| guard (e.k == "K" && parseLoc e.loc == .lk && !c.lock)
      s!"{pc.op}: expected to acquire the free collect lock"
      (.ok ({ c with lock := true }, { pc with task := some .colLocked }, none))
  | some .colLocked =>
    if pc.op == "sum" then
      if pc.stage == 0 then
        plain <| guard (e.k == "L" && parseLoc e.loc == .sc && ordGe e.ord "Relaxed" && e.res == encSc c.hot c.n)
          "sum: expected load Relaxed of shard_and_count" (.ok (c, { pc with stage := 1, b := c.hot }, none))
      else if pc.stage == 1 then
        let x := (c.sh pc.b).cell k
        plain <| guard (e.k == "L" && parseLoc e.loc == .sum pc.b && ordGe e.ord "Relaxed" && sumRange x && e.res == f64OfInt x)
          s!"sum: expected load Relaxed of the sum of shard {pc.b} -> {hexStr (f64OfInt x)}" (.ok (c, { pc with stage := 2, val := x }, none))
      else
        plain <| guard (e.k == "k" && parseLoc e.loc == .lk) "sum: expected unlock"
          (.ok ({ c with lock := false }, { pc with task := none }, some (hexStr (f64OfInt pc.val))))
    else
      plain <| fetchAdd e c pc .sc "AcqRel" top (encSc c.hot c.n) true
        s!"collect: expected flip fetch_add AcqRel 2^63 on shard_and_count -> {hexStr (encSc c.hot c.n)}"
        ({ c with hot := !c.hot }, { pc with task := some (.colSpin c.hot c.n c.claimed) }, none)
  | some (.colSpin cold ov S) =>
    if e.k == "L" then
      -- test-and-test-and-set: a load of the cold count before a compare-exchange attempt changes nothing
      plain <| guard (parseLoc e.loc == .cnt cold && ordGe e.ord "Relaxed" && e.res == (c.sh cold).count.toUInt64)
        s!"collect: expected load of the count of shard {cold} -> {(c.sh cold).count}" (.ok (c, pc, none))
    else
    plain <| guard (e.k == "C" && parseLoc e.loc == .cnt cold && ordGe e.ord "Acquire" && e.a == ov.toUInt64 && e.b == 0)
      s!"collect: expected spin cas Acquire {ov} -> 0 on the count of shard {cold}" <|
      if e.ok then
        guard (decide ((c.sh cold).count = ov)) "spin succeeded before the cold shard was complete"
          (.ok ({ c with sh := modSh c.sh cold (fun sd => { sd with count := 0 }) },
                { pc with task := some (.colMove cold ov (prog k) (fun _ => 0) S) }, none))
      else
        guard (e.res == (c.sh cold).count.toUInt64) "failed spin cas reports a wrong count" (.ok (c, pc, none))
  | some (.colMove cold ov todo taken S) => colStep k c cuts e pc cold ov todo taken S

/-- one event of an open call: the check `evStep1` (the silent `addHot` of 0 is part of the collector's swap,
    see `swapRes` / `colStep`) -/
def evStep (k : Nat) (c : Hp.St) (cuts : Cuts) (e : Ev) (pc : Pc) : Except String (Res × Cuts) :=
  evStep1 k c cuts e pc

/-- the observation an `obs:v` / `flush:v1+v2+…` call makes: weight, one entry per non-empty bucket
    (ascending), then the sum entry on cell `k` -/
def obsOfVals (bounds : List UInt64) (vals : List Int) : Obs :=
  let k := bounds.length
  let counts := vals.foldl (fun acc v => match findBucket bounds (f64OfInt v) with | some i => bumpAt acc i 1 | none => acc) (List.replicate k 0)
  ⟨vals.length, ((counts.zipIdx).filterMap fun (cnt, i) => if cnt > 0 then some (i, (cnt : Int)) else none) ++ [(k, vals.foldl (· + ·) 0)]⟩

def parseIntVals (s : String) : List Int := (s.splitOn "+").map parseIntArg

def callVals (op : String) : List Int :=
  if opName op == "obs" then [parseIntArg (opArg op)] else parseIntVals (opArg op)

def planObs (k : Nat) (n : String) (o : Obs) : Except String (Option Pc) :=
  if o.w == 0 then .ok none
  else if decide (1 ≤ o.w) && o.upd.all (fun p => decide (p.1 ≤ k)) then .ok (some { op := n, task := some (.obsStart o) })
  else .error "observation outside the model"

/-- opening a call: the task it starts as (`none` = the call performs no shared step at all) -/
def planCall (s : St) (op : String) : Except String (Option Pc) :=
  let n := opName op
  if n == "obs" || n == "flush" then planObs s.bounds.length n (obsOfVals s.bounds (callVals op))
  else if n == "collect" then .ok (some { op := n, task := some .colWant, c0 := s.core.claimed })
  else if n == "sum" then .ok (some { op := n, task := some .colWant })
  else if n == "count" then .ok (some { op := n, task := none })
  else .error s!"unknown op {op}"

def item (s : St) : Item → Except String St
  | .ev e =>
    match s.ths[e.tid]? with
    | none => .error "no such thread"
    | some th =>
      match th.pc with
      | none => .error "event outside a call"
      | some pc =>
        match evStep s.bounds.length s.core s.cuts e pc with
        | .error m => .error m
        | .ok ((c', pc', rv), cuts') =>
          -- ghost: the event was a claim step iff `claimed` grew; tag the new position with (thread, call index)
          let tags' := if c'.claimed.length > s.core.claimed.length then s.tags ++ [(e.tid, th.idx)] else s.tags
          match rv with
          | none => .ok { s with core := c', cuts := cuts', tags := tags', ths := s.ths.set e.tid { th with pc := some pc' } }
          | some v =>
            if pc'.task.isSome then .error "internal: a completed call still has a task"
            else .ok { s with core := c', cuts := cuts', tags := tags', ths := s.ths.set e.tid { th with pc := none, retv := some v } }
  | .call t i op =>
    match s.ths[t]? with
    | none => .error "no such thread"
    | some th =>
      match planCall s op with
      | .error m => .error m
      | .ok plan =>
        if th.pc.isSome || th.retv.isSome then .error "call while another call is open"
        else if toString th.idx != i then .error s!"call index {i}, expected {th.idx}"
        else if th.ops.getD th.idx "" != op then .error s!"call {op}, program says {th.ops.getD th.idx ""}"
        else match plan with
          | none => .ok { s with ths := s.ths.set t { th with retv := some "" } }
          | some pc => .ok { s with ths := s.ths.set t { th with pc := some pc } }
  | .ret t i v =>
    match s.ths[t]? with
    | none => .error "no such thread"
    | some th => match closeCall th i v with
      | .ok th' => .ok { s with ths := s.ths.set t th' }
      | .error e => .error e
  | .other x => .error s!"unparsed trace item {x}"

def init (bounds : List UInt64) (prog : List (List String)) : St :=
  { bounds := bounds, core := Hp.init, ths := prog.map fun ops => { ops := ops } }

/-- stats of everything claimed, as a final quiescent collect must report them -/
def finalStats (s : St) : String :=
  let k := s.bounds.length
  showSnap k (totW s.core.claimed) (fun c => tot s.core.claimed c)

def histReplay (bounds : List UInt64) (prog : List (List String)) (trace : List Item) : String :=
  match runItems item (init bounds prog) trace 0 with
  | .error e => e
  | .ok s => if allDone s.ths then s!"ok final={finalStats s}" else "incomplete"

end Prom.HM
