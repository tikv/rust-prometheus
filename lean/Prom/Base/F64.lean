/-
IEEE-754 binary64 *order* modelled bit-exactly on the 64-bit pattern.
No `Float` occurs in any definition used by a theorem about ordering; `Float`
is used only by the executable arithmetic (`f64Add`, `f64Mul`, `f64OfNat`); the
theorems about sums take addition as a parameter.
-/
namespace Prom

/-- NaN: exponent all ones, mantissa non-zero. -/
def f64IsNaN (b : UInt64) : Bool :=
  (b &&& 0x7FFFFFFFFFFFFFFF) > 0x7FF0000000000000

/-- sign bit set -/
def f64Neg (b : UInt64) : Bool := b ≥ 0x8000000000000000

/-- magnitude bits -/
def f64Mag (b : UInt64) : Nat := (b &&& 0x7FFFFFFFFFFFFFFF).toNat

/-- order key: sign-magnitude read as an integer; `-0` and `+0` both map to 0. -/
def f64Key (b : UInt64) : Int :=
  if f64Neg b then - (f64Mag b : Int) else (f64Mag b : Int)

/-- IEEE `a <= b` (false when either side is NaN). -/
def f64Le (a b : UInt64) : Bool :=
  !f64IsNaN a && !f64IsNaN b && decide (f64Key a ≤ f64Key b)

/-- IEEE `a < b`. -/
def f64Lt (a b : UInt64) : Bool :=
  !f64IsNaN a && !f64IsNaN b && decide (f64Key a < f64Key b)

/-- IEEE `a >= b`. -/
def f64Ge (a b : UInt64) : Bool := f64Le b a
/-- IEEE `a > b`. -/
def f64Gt (a b : UInt64) : Bool := f64Lt b a

def f64PosInf : UInt64 := 0x7FF0000000000000
def f64NegInf : UInt64 := 0xFFF0000000000000
def f64Zero : UInt64 := 0

/-- `is_sign_positive() && is_infinite()` -/
def f64IsPosInf (b : UInt64) : Bool := b == f64PosInf

/-- executable IEEE addition (Lean `Float` is binary64). Parameter of theorems. -/
def f64Add (a b : UInt64) : UInt64 := (Float.ofBits a + Float.ofBits b).toBits
def f64Mul (a b : UInt64) : UInt64 := (Float.ofBits a * Float.ofBits b).toBits
def f64OfNat (n : Nat) : UInt64 := (Float.ofNat n).toBits
def f64NegOp (a : UInt64) : UInt64 := a ^^^ 0x8000000000000000

/-- canonical text of a bit pattern for the line protocol (all NaNs identified). -/
def f64Show (b : UInt64) : String :=
  if f64IsNaN b then "nan" else
    let ds := (Nat.toDigits 16 b.toNat)
    String.ofList (List.replicate (16 - ds.length) '0' ++ ds)

end Prom
