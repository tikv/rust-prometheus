/-
Strings are modelled as their UTF-8 byte lists (a Rust `String` *is* a byte vector that is
valid UTF-8; `==`, `Ord` and hashing of strings are byte-wise). `Lemmas/Utf8.lean` proves the two facts about UTF-8
the models rely on (no byte is 0xFF; ASCII bytes only come from ASCII chars), `Lemmas/SepEnc.lean` that the
0xFF-terminated encoding fed to the hashers is injective on such strings.
-/
namespace Prom

abbrev Str := List UInt8

/-- byte-wise lexicographic `<=` (Rust `str::cmp`): core's lexicographic order on `List UInt8` -/
def strLe (a b : Str) : Bool := decide (a ≤ b)
def strLt (a b : Str) : Bool := decide (a < b)

/-- insertion into a list sorted by `le` (stable: after every element `x` with `le x a`) -/
def insertBy {α} (le : α → α → Bool) (a : α) : List α → List α
  | [] => [a]
  | b :: r => if le b a then b :: insertBy le a r else a :: b :: r

/-- stable insertion sort (models `sort`/`sort_by`; also BTreeSet/BTreeMap iteration when keys are
    unique): folding from the left keeps equal elements in input order -/
def stableSortBy {α} (le : α → α → Bool) (l : List α) : List α :=
  l.foldl (fun acc a => insertBy le a acc) []

def strOfString (s : String) : Str := s.toUTF8.toList

end Prom
