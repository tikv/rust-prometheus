import Prom.Model.Desc
/- `is_valid_ident` (metric and label names) on UTF-8 byte lists: a start byte, then start bytes or digits
   (`isValidIdent_iff`; `validIdent_bytes` is the form the byte-level proofs use; label names are metric names).
   In `Prom.C09`: the byte classes of `[a-zA-Z_:][a-zA-Z0-9_:]*` and `[a-zA-Z_][a-zA-Z0-9_]*` that the C09 statements are
   written in, and that they are the model's `metricStart` / `labelStart`. `Lemmas/CharsetsGen.lean` ties these byte
   classes to the character classes translated from src/desc.rs. -/
namespace Prom

theorem isValidIdent_iff (start : UInt8 → Bool) (s : Str) :
    isValidIdent start s = true ↔
      ∃ c r, s = c :: r ∧ start c = true ∧ ∀ x ∈ r, start x = true ∨ (0x30 ≤ x ∧ x ≤ 0x39) := by
  cases s with
  | nil => simp [isValidIdent]
  | cons c r =>
    simp only [isValidIdent, isAsciiDigit, Bool.and_eq_true, List.all_eq_true, Bool.or_eq_true, decide_eq_true_eq,
      List.cons.injEq]
    exact ⟨fun h => ⟨c, r, ⟨rfl, rfl⟩, h⟩, fun ⟨_, _, ⟨hc, hr⟩, h⟩ => hc ▸ hr ▸ h⟩

theorem validIdent_bytes {start : UInt8 → Bool} {s : Str} (h : isValidIdent start s = true) :
    (∃ c r, s = c :: r ∧ start c = true) ∧ ∀ b ∈ s, (start b || isAsciiDigit b) = true := by
  cases s with
  | nil => cases h
  | cons c r =>
    simp only [isValidIdent, Bool.and_eq_true, List.all_eq_true] at h
    exact ⟨⟨c, r, rfl, h.1⟩, List.forall_mem_cons.2 ⟨by simp [h.1], h.2⟩⟩

theorem isValidIdent_mono {s s' : UInt8 → Bool} (hs : ∀ b, s b = true → s' b = true) {n : Str}
    (h : isValidIdent s n = true) : isValidIdent s' n = true := by
  cases n with
  | nil => cases h
  | cons c r =>
    simp only [isValidIdent, Bool.and_eq_true, List.all_eq_true, Bool.or_eq_true] at h ⊢
    exact ⟨hs c h.1, fun x hx => (h.2 x hx).imp_left (hs x)⟩

theorem validLabel_validMetric {s : Str} (h : isValidLabelName s = true) : isValidMetricName s = true :=
  isValidIdent_mono (fun _ hb => by simp [metricStart, hb]) h

end Prom

namespace Prom.C09

/-- `[a-zA-Z_:]` / `[a-zA-Z0-9_:]` as explicit byte ranges -/
def MetricStartByte (b : UInt8) : Prop :=
  (0x41 ≤ b ∧ b ≤ 0x5A) ∨ (0x61 ≤ b ∧ b ≤ 0x7A) ∨ b = 0x5F ∨ b = 0x3A

def MetricRestByte (b : UInt8) : Prop := MetricStartByte b ∨ (0x30 ≤ b ∧ b ≤ 0x39)

def LabelStartByte (b : UInt8) : Prop :=
  (0x41 ≤ b ∧ b ≤ 0x5A) ∨ (0x61 ≤ b ∧ b ≤ 0x7A) ∨ b = 0x5F

def LabelRestByte (b : UInt8) : Prop := LabelStartByte b ∨ (0x30 ≤ b ∧ b ≤ 0x39)

theorem labelStart_iff (b : UInt8) : labelStart b = true ↔ LabelStartByte b := by
  simp [labelStart, isAsciiAlpha, LabelStartByte, Bool.or_eq_true, Bool.and_eq_true, or_assoc]

theorem metricStart_iff (b : UInt8) : metricStart b = true ↔ MetricStartByte b := by
  simp [metricStart, labelStart, isAsciiAlpha, MetricStartByte, Bool.or_eq_true, Bool.and_eq_true, or_assoc]

end Prom.C09
