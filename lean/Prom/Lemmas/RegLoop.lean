import Prom.Model.Registry
import Prom.Lemmas.ListAux
/-
The descriptor loop of `register` (C06). The C06 statements are written in `cidOf`, `SelfConsistent`, `DescOk`,
`Accepted`, `RefusedWith`; the proofs also in `descRefusal` (the loop's verdict on one descriptor) and `staged`.
`regLoop_cons` is one iteration, `regLoop_ok_iff` says when the loop succeeds and what it has staged then,
`regLoop_err_iff` where it stops; `regLoop_start_iff` / `regLoop_start_err_iff` are these from the empty staging
area, and `register_cases` is `Reg.register` case by case: what other files use.
-/
namespace Prom.C06

/-- `dimInsert` on a pair: the step by which `register` commits the staged signatures -/
abbrev ins (m : List (Str × UInt64)) (kv : Str × UInt64) : List (Str × UInt64) := dimInsert m kv.1 kv.2

def descKv (d : Desc) : Str × UInt64 := (d.fqName, d.dimHash)

/-- the collector id: the wrapping sum of the descriptor ids -/
abbrev cidOf (l : List UInt64) : UInt64 := l.foldl (· + ·) (0 : UInt64)

/-- what the loop has staged once it has accepted `ds` -/
def staged (ids : List UInt64) (nd : List (Str × UInt64)) (cid : UInt64) (ds : List Desc) :
    List UInt64 × List (Str × UInt64) × UInt64 :=
  (ids ++ ds.map (·.id), (ds.map descKv).foldl ins nd, (ds.map (·.id)).foldl (· + ·) cid)

theorem staged_cons (ids : List UInt64) (nd : List (Str × UInt64)) (cid : UInt64) (d : Desc) (ds : List Desc) :
    staged ids nd cid (d :: ds) = staged (ids ++ [d.id]) (dimInsert nd d.fqName d.dimHash) (cid + d.id) ds := by
  simp [staged, descKv]

/-! `register` commits what the loop staged by folding `ins`. The lemmas up to `fold_ins_fold_ins` carry lookups and
    filters through such a fold: for `register_cases`, `descOk_iff`, and for what is staged under a name
    (`dimLookup_staged`: the fold from `[]` is `(staged [] [] 0 ds).2.1`). -/

theorem dimLookup_dimInsert (m : List (Str × UInt64)) (k n : Str) (h : UInt64) :
    dimLookup (dimInsert m k h) n = if k = n then some h else dimLookup m n :=
  alook_upsert m k n h

/-- descriptors of one collector that share a name share the dimension hash -/
def SelfConsistent (ds : List Desc) : Prop := ∀ d ∈ ds, ∀ d' ∈ ds, d.fqName = d'.fqName → d.dimHash = d'.dimHash

theorem selfConsistent_cons {d : Desc} {ds : List Desc} :
    SelfConsistent (d :: ds) ↔ (∀ x ∈ ds, x.fqName = d.fqName → x.dimHash = d.dimHash) ∧ SelfConsistent ds := by
  constructor
  · intro h
    exact ⟨fun x hx e => h x (by simp [hx]) d (by simp) e, fun a ha b hb => h a (by simp [ha]) b (by simp [hb])⟩
  · rintro ⟨h1, h2⟩ a ha b hb e
    rcases List.mem_cons.1 ha with ha | ha <;> rcases List.mem_cons.1 hb with hb | hb
    · rw [ha, hb]
    · rw [ha] at e ⊢; exact (h1 b hb e.symm).symm
    · rw [hb] at e ⊢; exact h1 a ha e
    · exact h2 a ha b hb e

theorem dimLookup_fold_descs : ∀ (ds : List Desc) (m : List (Str × UInt64)) (n : Str) (h : UInt64), SelfConsistent ds →
    (dimLookup ((ds.map descKv).foldl ins m) n = some h ↔
      (∃ d ∈ ds, d.fqName = n ∧ d.dimHash = h) ∨ ((∀ d ∈ ds, d.fqName ≠ n) ∧ dimLookup m n = some h)) := by
  intro ds
  induction ds with
  | nil => intro m n h _; simp
  | cons d t ih =>
    intro m n h hs
    obtain ⟨hd, ht⟩ := selfConsistent_cons.1 hs
    rw [List.map_cons, List.foldl_cons, ih _ n h ht]
    show _ ∨ (_ ∧ dimLookup (dimInsert m d.fqName d.dimHash) n = some h) ↔ _
    rw [dimLookup_dimInsert]
    by_cases e : d.fqName = n
    · simp only [e, if_true, Option.some.injEq, List.mem_cons, exists_eq_or_imp, true_and, ne_eq,
        forall_eq_or_imp, not_true_eq_false, false_and, or_false]
      constructor
      · rintro (⟨x, hx, hn, rfl⟩ | ⟨_, rfl⟩)
        · exact Or.inr ⟨x, hx, hn, rfl⟩
        · exact Or.inl rfl
      · rintro (rfl | ⟨x, hx, hn, rfl⟩)
        · by_cases hex : ∃ x ∈ t, x.fqName = n
          · obtain ⟨x, hx, hn⟩ := hex
            exact Or.inl ⟨x, hx, hn, hd x hx (hn.trans e.symm)⟩
          · exact Or.inr ⟨fun x hx hn => hex ⟨x, hx, hn⟩, rfl⟩
        · exact Or.inl ⟨x, hx, hn, rfl⟩
    · simp only [e, if_false, List.mem_cons, exists_eq_or_imp, false_and, false_or, ne_eq,
        forall_eq_or_imp, not_false_eq_true, true_and]

theorem dimLookup_staged {ds : List Desc} (hs : SelfConsistent ds) (n : Str) (h : UInt64) :
    dimLookup ((ds.map descKv).foldl ins []) n = some h ↔ ∃ d ∈ ds, d.fqName = n ∧ d.dimHash = h := by
  rw [dimLookup_fold_descs ds [] n h hs]
  simp [dimLookup]

theorem filter_dimInsert (m : List (Str × UInt64)) (k k' : Str) (h : UInt64) :
    (dimInsert m k h).filter (·.1 != k') =
      if k = k' then m.filter (·.1 != k') else dimInsert (m.filter (·.1 != k')) k h := by
  unfold dimInsert
  rw [List.filter_append, List.filter_filter]
  by_cases e : k = k'
  · subst e; simp
  · simp [e, Bool.and_comm]

theorem filter_fold_ins (k : Str) : ∀ (kvs m : List (Str × UInt64)),
    (kvs.foldl ins m).filter (·.1 != k) = (kvs.filter (·.1 != k)).foldl ins (m.filter (·.1 != k)) := by
  intro kvs m
  rw [List.foldl_filter]
  refine (List.foldl_hom (fun l : List (Str × UInt64) => l.filter (·.1 != k)) fun x kv => ?_).symm
  rw [filter_dimInsert]
  by_cases e : kv.1 = k <;> simp [e]

/-- committing a staged map = inserting its entries directly -/
theorem fold_ins_fold_ins (kvs a m : List (Str × UInt64)) :
    (kvs.foldl ins a).foldl ins m = kvs.foldl ins (a.foldl ins m) := by
  -- folding into `m` commutes with one insertion
  refine (List.foldl_hom (fun a : List (Str × UInt64) => a.foldl ins m) (g₁ := ins) (g₂ := ins) fun a kv => ?_).symm
  show (a.foldl ins m).filter (·.1 != kv.1) ++ [kv] = (a.filter (·.1 != kv.1) ++ [kv]).foldl ins m
  rw [List.foldl_append, List.foldl_cons, List.foldl_nil]
  show _ = (_ : List _).filter (·.1 != kv.1) ++ [kv]
  rw [filter_fold_ins, filter_fold_ins, List.filter_filter]
  simp

/-- a descriptor passes the three registry-level checks of `register` (`C09.DescOk` is another notion: a descriptor that
    `Desc::new` built) -/
def DescOk (r : Reg) (d : Desc) : Prop :=
  clashesCommon r.labels d = false ∧ r.descIds.contains d.id = false ∧
  ∀ h, dimLookup r.dimHashes d.fqName = some h → h = d.dimHash

/-- the signature the loop compares a name with: the recorded one, else the staged one -/
def dimKnown (r : Reg) (nd : List (Str × UInt64)) (n : Str) : Option UInt64 :=
  (dimLookup r.dimHashes n).or (dimLookup nd n)

/-- the verdict of the loop on ONE descriptor, given the ids and signatures staged so far:
    `none` = accepted, `some e` = refused with `e` -/
def descRefusal (r : Reg) (ids : List UInt64) (nd : List (Str × UInt64)) (d : Desc) : Option RErr :=
  if clashesCommon r.labels d then some .msg
  else if r.descIds.contains d.id then some .alreadyReg
  else if (dimKnown r nd d.fqName).any (· != d.dimHash) || ids.contains d.id then some .msg
  else none

theorem regLoop_cons (r : Reg) (d : Desc) (rest : List Desc) (ids : List UInt64) (nd : List (Str × UInt64)) (cid : UInt64) :
    regLoop r (d :: rest) ids nd cid =
      match descRefusal r ids nd d with
      | some e => .error e
      | none => regLoop r rest (ids ++ [d.id]) (dimInsert nd d.fqName d.dimHash) (cid + d.id) := by
  rw [regLoop]
  unfold descRefusal dimKnown
  -- both sides go on in the same way after the tests
  generalize regLoop r rest (ids ++ [d.id]) (dimInsert nd d.fqName d.dimHash) (cid + d.id) = k
  cases clashesCommon r.labels d
  · cases r.descIds.contains d.id
    · -- the two lookups decide `known`; then the two remaining tests, in the loop's order
      have body : ∀ known : Option UInt64,
          (match known with
            | some h => if h != d.dimHash then (.error .msg : Except RErr _) else
                if ids.contains d.id then .error .msg else k
            | none => if ids.contains d.id then .error .msg else k) =
          match (if (known.any (· != d.dimHash) || ids.contains d.id) = true then some RErr.msg else none) with
          | some e => .error e
          | none => k := by
        intro known
        cases known with
        | none => cases ids.contains d.id <;> rfl
        | some h => cases hne : (h != d.dimHash) <;> cases ids.contains d.id <;> simp [hne]
      cases dimLookup r.dimHashes d.fqName with
      | some h => exact body (some h)
      | none => exact body _
    · rfl
  · rfl

theorem dimKnown_clash_iff (r : Reg) (nd : List (Str × UInt64)) (n : Str) (x : UInt64) :
    (dimKnown r nd n).any (· != x) = true ↔
      (∃ h, dimLookup r.dimHashes n = some h ∧ h ≠ x) ∨
      (dimLookup r.dimHashes n = none ∧ ∃ h, dimLookup nd n = some h ∧ h ≠ x) := by
  simp only [dimKnown, Option.any_eq_true, Option.or_eq_some_iff, bne_iff_ne, or_and_right, exists_or, and_assoc,
    exists_and_left]

theorem dimKnown_agree_iff (r : Reg) (nd : List (Str × UInt64)) (n : Str) (x : UInt64) :
    (dimKnown r nd n).any (· != x) = false ↔
      (∀ h, dimLookup r.dimHashes n = some h → h = x) ∧
      (dimLookup r.dimHashes n = none → ∀ h, dimLookup nd n = some h → h = x) := by
  simp only [dimKnown, Option.any_eq_false, Option.or_eq_some_iff, bne_eq_false_iff_eq, or_imp, forall_and, and_imp]
  exact and_congr_right fun _ => ⟨fun h hn x => h x hn, fun h x hn => h hn x⟩

theorem descRefusal_eq_some_iff (r : Reg) (ids : List UInt64) (nd : List (Str × UInt64)) (d : Desc) (e : RErr) :
    descRefusal r ids nd d = some e ↔
      (e = .alreadyReg ∧ clashesCommon r.labels d = false ∧ r.descIds.contains d.id = true) ∨
      (e = .msg ∧ (clashesCommon r.labels d = true ∨
        (r.descIds.contains d.id = false ∧
          ((∃ h, dimLookup r.dimHashes d.fqName = some h ∧ h ≠ d.dimHash) ∨
           (dimLookup r.dimHashes d.fqName = none ∧ ∃ h, dimLookup nd d.fqName = some h ∧ h ≠ d.dimHash) ∨
           ids.contains d.id = true)))) := by
  rw [← or_assoc, ← dimKnown_clash_iff, ← Bool.or_eq_true]
  unfold descRefusal
  -- a truth table over the three tests and the two errors
  generalize clashesCommon r.labels d = c
  generalize r.descIds.contains d.id = i
  generalize ((dimKnown r nd d.fqName).any (· != d.dimHash) || ids.contains d.id) = x
  cases e <;> revert c i x <;> decide

theorem descRefusal_eq_none_iff (r : Reg) (ids : List UInt64) (nd : List (Str × UInt64)) (d : Desc) :
    descRefusal r ids nd d = none ↔
      DescOk r d ∧ ids.contains d.id = false ∧
      (dimLookup r.dimHashes d.fqName = none → ∀ h, dimLookup nd d.fqName = some h → h = d.dimHash) := by
  unfold descRefusal DescOk
  rw [and_assoc, and_assoc, and_comm (a := ids.contains d.id = false), ← and_assoc (c := ids.contains d.id = false),
    ← dimKnown_agree_iff, ← Bool.or_eq_false_iff]
  -- a truth table over the three tests
  generalize clashesCommon r.labels d = c
  generalize r.descIds.contains d.id = i
  generalize ((dimKnown r nd d.fqName).any (· != d.dimHash) || ids.contains d.id) = x
  revert c i x
  decide

theorem regLoop_ok_iff (r : Reg) : ∀ (ds : List Desc) (ids : List UInt64) (nd : List (Str × UInt64)) (cid : UInt64)
    (res : List UInt64 × List (Str × UInt64) × UInt64),
    regLoop r ds ids nd cid = .ok res ↔
      res = staged ids nd cid ds ∧ (∀ d ∈ ds, DescOk r d) ∧
      (∀ d ∈ ds, ids.contains d.id = false) ∧ (ds.map (·.id)).Nodup ∧ SelfConsistent ds ∧
      ∀ d ∈ ds, dimLookup r.dimHashes d.fqName = none → ∀ h, dimLookup nd d.fqName = some h → h = d.dimHash := by
  intro ds
  induction ds with
  | nil => intro ids nd cid res; simp [regLoop, staged, SelfConsistent, eq_comm]
  | cons d t ih =>
    intro ids nd cid res
    have step : regLoop r (d :: t) ids nd cid = .ok res ↔ descRefusal r ids nd d = none ∧
        regLoop r t (ids ++ [d.id]) (dimInsert nd d.fqName d.dimHash) (cid + d.id) = .ok res := by
      rw [regLoop_cons]; cases descRefusal r ids nd d <;> simp
    rw [step, descRefusal_eq_none_iff, ih, staged_cons, selfConsistent_cons]
    simp only [List.mem_cons, forall_eq_or_imp, List.map_cons, List.nodup_cons, List.contains_append,
      Bool.or_eq_false_iff, List.contains_cons, List.contains_nil, Bool.or_false, dimLookup_dimInsert]
    constructor
    · rintro ⟨⟨hok, hni, hag⟩, hres, h1, h2, h3, h4, h5⟩
      -- descriptors of `t` named like `d`: through the recorded signature, or the one `d` staged
      have hsame : ∀ x ∈ t, x.fqName = d.fqName → x.dimHash = d.dimHash := by
        intro x hx hn
        cases hr : dimLookup r.dimHashes d.fqName with
        | some h0 => rw [← hok.2.2 h0 hr, ← (h1 x hx).2.2 h0 (hn ▸ hr)]
        | none => exact (h5 x hx (hn ▸ hr) d.dimHash (by rw [if_pos hn.symm])).symm
      refine ⟨hres, ⟨hok, h1⟩, ⟨hni, fun x hx => (h2 x hx).1⟩, ⟨?_, h3⟩, ⟨hsame, h4⟩, hag, ?_⟩
      · intro hm
        obtain ⟨x, hx, hxd⟩ := List.mem_map.1 hm
        have := (h2 x hx).2
        simp [hxd] at this
      · intro x hx hun h hl
        by_cases hn : d.fqName = x.fqName
        · rw [hsame x hx hn.symm]
          exact hag (hn ▸ hun) h (hn ▸ hl)
        · exact h5 x hx hun h (by rw [if_neg hn]; exact hl)
    · rintro ⟨hres, ⟨hok, h1⟩, ⟨hni, h2⟩, ⟨hnd, h3⟩, ⟨hsame, h4⟩, hag, h5⟩
      refine ⟨⟨hok, hni, hag⟩, hres, h1, fun x hx => ⟨h2 x hx, ?_⟩, h3, h4, ?_⟩
      · have : x.id ≠ d.id := fun e => hnd (List.mem_map.2 ⟨x, hx, e⟩)
        simpa using this
      · intro x hx hun h hl
        by_cases hn : d.fqName = x.fqName
        · rw [if_pos hn] at hl
          rw [← Option.some.inj hl, hsame x hx hn.symm]
        · rw [if_neg hn] at hl
          exact h5 x hx hun h hl

theorem regLoop_append (r : Reg) : ∀ (pre rest : List Desc) (ids : List UInt64) (nd : List (Str × UInt64)) (cid : UInt64),
    regLoop r (pre ++ rest) ids nd cid =
      match regLoop r pre ids nd cid with
      | .error e => .error e
      | .ok res => regLoop r rest res.1 res.2.1 res.2.2 := by
  intro pre
  induction pre with
  | nil => intro rest ids nd cid; simp [regLoop]
  | cons d t ih =>
    intro rest ids nd cid
    rw [List.cons_append, regLoop_cons, regLoop_cons]
    cases descRefusal r ids nd d with
    | some e => rfl
    | none => exact ih _ _ _ _

theorem regLoop_ok_prefix (r : Reg) (pre rest : List Desc) (ids : List UInt64) (nd : List (Str × UInt64)) (cid : UInt64)
    (res : List UInt64 × List (Str × UInt64) × UInt64) (h : regLoop r (pre ++ rest) ids nd cid = .ok res) :
    ∃ res', regLoop r pre ids nd cid = .ok res' := by
  rw [regLoop_append] at h
  cases hp : regLoop r pre ids nd cid with
  | error e => rw [hp] at h; cases h
  | ok res' => exact ⟨res', rfl⟩

theorem regLoop_err_iff (r : Reg) (ds : List Desc) (ids : List UInt64) (nd : List (Str × UInt64)) (cid : UInt64) (e : RErr) :
    regLoop r ds ids nd cid = .error e ↔
      ∃ pre d post res, ds = pre ++ d :: post ∧ regLoop r pre ids nd cid = .ok res ∧
        descRefusal r res.1 res.2.1 d = some e := by
  constructor
  · induction ds generalizing ids nd cid with
    | nil => intro h; simp [regLoop] at h
    | cons d rest ih =>
      intro h
      rw [regLoop_cons] at h
      cases hdr : descRefusal r ids nd d with
      | some e' =>
        rw [hdr] at h
        cases h
        exact ⟨[], d, rest, (ids, nd, cid), rfl, rfl, hdr⟩
      | none =>
        rw [hdr] at h
        obtain ⟨pre, x, post, res, hsplit, hok, hx⟩ := ih _ _ _ h
        exact ⟨d :: pre, x, post, res, by rw [hsplit]; rfl, by rw [regLoop_cons, hdr]; exact hok, hx⟩
  · rintro ⟨pre, d, post, res, rfl, hok, hx⟩
    rw [regLoop_append, hok]
    simp only []
    rw [regLoop_cons, hx]

/-- a collector's descriptors the loop accepts from the empty staging area: each passes the three
    registry-level checks, they are pairwise distinct and agree among themselves on shared names -/
def Accepted (r : Reg) (ds : List Desc) : Prop :=
  (∀ d ∈ ds, DescOk r d) ∧ (ds.map (·.id)).Nodup ∧ SelfConsistent ds

theorem regLoop_start_iff (r : Reg) (ds : List Desc) (res : List UInt64 × List (Str × UInt64) × UInt64) :
    regLoop r ds [] [] 0 = .ok res ↔ res = staged [] [] 0 ds ∧ Accepted r ds := by
  rw [regLoop_ok_iff]
  -- nothing is staged yet: the conditions on `ids` and `nd` hold trivially
  refine and_congr_right fun _ => ⟨fun ⟨h1, _, h3, h4, _⟩ => ⟨h1, h3, h4⟩, fun ⟨h1, h3, h4⟩ => ?_⟩
  exact ⟨h1, fun _ _ => rfl, h3, h4, fun _ _ _ _ hl => by cases hl⟩

/-- `d`, coming after the accepted descriptors `pre` of its collector, is refused with `e`:
    `AlreadyReg` when it clashes with no common label and its id is in use; `Msg` for a common-label
    clash, or - id not in use - a dimension hash that disagrees with the recorded signature of its name,
    or (none recorded) with an earlier descriptor of the collector under that name, or an id that an
    earlier descriptor of the collector has -/
def RefusedWith (r : Reg) (pre : List Desc) (d : Desc) (e : RErr) : Prop :=
  (e = .alreadyReg ∧ clashesCommon r.labels d = false ∧ r.descIds.contains d.id = true) ∨
  (e = .msg ∧ (clashesCommon r.labels d = true ∨
    (r.descIds.contains d.id = false ∧
      ((∃ h, dimLookup r.dimHashes d.fqName = some h ∧ h ≠ d.dimHash) ∨
       (dimLookup r.dimHashes d.fqName = none ∧ ∃ d' ∈ pre, d'.fqName = d.fqName ∧ d'.dimHash ≠ d.dimHash) ∨
       d.id ∈ pre.map (·.id)))))

theorem refusedWith_iff {r : Reg} {pre : List Desc} (hacc : Accepted r pre) (d : Desc) (e : RErr) :
    descRefusal r (pre.map (·.id)) ((pre.map descKv).foldl ins []) d = some e ↔ RefusedWith r pre d e := by
  have hst : (∃ h, dimLookup ((pre.map descKv).foldl ins []) d.fqName = some h ∧ h ≠ d.dimHash) ↔
      ∃ d' ∈ pre, d'.fqName = d.fqName ∧ d'.dimHash ≠ d.dimHash := by
    simp only [dimLookup_staged hacc.2.2]
    constructor
    · rintro ⟨_, ⟨d', hd', hn, rfl⟩, hne⟩; exact ⟨d', hd', hn, hne⟩
    · rintro ⟨d', hd', hn, hne⟩; exact ⟨_, ⟨d', hd', hn, rfl⟩, hne⟩
  have hc : (pre.map (·.id)).contains d.id = true ↔ d.id ∈ pre.map (·.id) := List.contains_iff_mem
  rw [descRefusal_eq_some_iff, hst, hc]
  rfl

theorem regLoop_start_err_iff (r : Reg) (ds : List Desc) (e : RErr) :
    regLoop r ds [] [] 0 = .error e ↔
      ∃ pre d post, ds = pre ++ d :: post ∧ Accepted r pre ∧ RefusedWith r pre d e := by
  rw [regLoop_err_iff]
  constructor
  · rintro ⟨pre, d, post, res, hsplit, hok, hx⟩
    obtain ⟨rfl, hacc⟩ := (regLoop_start_iff r pre res).1 hok
    exact ⟨pre, d, post, hsplit, hacc, (refusedWith_iff hacc d e).1 hx⟩
  · rintro ⟨pre, d, post, hsplit, hacc, href⟩
    exact ⟨pre, d, post, _, hsplit, (regLoop_start_iff r pre _).2 ⟨rfl, hacc⟩, (refusedWith_iff hacc d e).2 href⟩

theorem register_cases (r : Reg) (c : Coll) :
    (∃ e, regLoop r c.descs [] [] 0 = .error e ∧ ¬ Accepted r c.descs ∧ r.register c = (r, .error e)) ∨
    (∃ res, regLoop r c.descs [] [] 0 = .ok res ∧ res.2.2 = cidOf (c.descs.map (·.id)) ∧ Accepted r c.descs ∧
      ((r.collectors.any (·.1 == cidOf (c.descs.map (·.id))) = true ∧ r.register c = (r, .error .alreadyReg)) ∨
       (r.collectors.any (·.1 == cidOf (c.descs.map (·.id))) = false ∧
        r.register c = ({ r with collectors := r.collectors ++ [(cidOf (c.descs.map (·.id)), c)],
                                 descIds := r.descIds ++ c.descs.map (·.id),
                                 dimHashes := (c.descs.map descKv).foldl ins r.dimHashes }, .ok ())))) := by
  unfold Reg.register
  cases hl : regLoop r c.descs [] [] 0 with
  | error e =>
    refine Or.inl ⟨e, rfl, fun hacc => ?_, rfl⟩
    have hres := (regLoop_start_iff r c.descs _).2 ⟨rfl, hacc⟩
    rw [hl] at hres; cases hres
  | ok res =>
    obtain ⟨rfl, hacc⟩ := (regLoop_start_iff r c.descs res).1 hl
    refine Or.inr ⟨_, rfl, rfl, hacc, ?_⟩
    simp only [staged, List.nil_append]
    by_cases hany : r.collectors.any (·.1 == cidOf (c.descs.map (·.id))) = true
    · exact Or.inl ⟨hany, if_pos hany⟩
    · exact Or.inr ⟨Bool.eq_false_iff.2 hany, (if_neg hany).trans (by rw [fold_ins_fold_ins]; rfl)⟩

end Prom.C06
