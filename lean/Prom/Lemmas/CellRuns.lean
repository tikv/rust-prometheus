import Prom.Lemmas.CellMachine
import Prom.Lemmas.OpLit
/-
Example traces of the cell machine that several theorems of `Props/C01.lean` / `Props/C11.lean` run, and their
common beginnings, run once to an explicit state (`retry_run7`, `intCas_run6`, `intCas_run7`, `setSwap_run5`). Traces
are run by `simp` with the definitions of the machine and what the head of `Lemmas/OpLit.lean` lists.
-/
namespace Prom.C01
open Prom.Conc Prom.RT

def retryOne : UInt64 := f64OfInt 1
/-- the bits of `0.0 + 1.0`, as a term: the runs below do not evaluate the addition -/
def retryV1 : UInt64 := f64Add 0 retryOne
def retryV2 : UInt64 := f64Add retryV1 retryOne

/-- two threads `inc` a float counter. Both load `0`; thread 1's compare-exchange `0 -> 0+1` succeeds;
    thread 0's compare-exchange `0 -> 0+1` FAILS and reports the value it found (`0+1`); thread 0 then
    retries AT ONCE with the reported value as expected value (`0+1 -> (0+1)+1`) - no second load - and
    succeeds -/
def retryTrace : List Item :=
  [.call 0 "0" "inc", .call 1 "0" "inc",
   .ev ⟨0, "L", "v0", "Acquire", 0, 0, 0, true⟩,
   .ev ⟨1, "L", "v0", "Acquire", 0, 0, 0, true⟩,
   .ev ⟨1, "C", "v0", "Release", 0, retryV1, 0, true⟩, .ret 1 "0" "",
   .ev ⟨0, "C", "v0", "Release", 0, retryV1, retryV1, false⟩,
   .ev ⟨0, "C", "v0", "Release", retryV1, retryV2, retryV1, true⟩, .ret 0 "0" ""]

theorem floatDelta_inc : floatDelta "inc" = some retryOne := by simp [floatDelta, opName_inc, retryOne]

/-- the state after the first 7 items of `retryTrace`: thread 1's increment is committed, thread 0's
    compare-exchange has failed and reported `0 + 1` -/
def retryS7 : ASt :=
  { float := true, counter := true, mem := retryV1,
    ths := [{ ops := ["inc"], pc := some (.retry retryV1) }, { ops := ["inc"], idx := 1 }], lin := [⟨1, 0, "inc", ""⟩] }

theorem retry_run7 : runItems aItem (aInit true true [["inc"], ["inc"]]) (retryTrace.take 7) 0 = .ok retryS7 := by
  simp [runItems, retryTrace, retryS7, aItem, aStep, aEv, aEvStart, aEvCas, Conc.guard, aInit, openCall, closeCall,
    repr_0, opName_inc, floatDelta_inc, retryV1, casNew, casOrd, ordGe_self, -getElem?_pos, List.getElem?_cons_zero,
    List.getElem?_cons_succ]

/-- two threads `inc` an INTEGER counter, both written as `load; compare_exchange(cur, cur + 1)` loops. Both
    load `0`; thread 1's compare-exchange `0 -> 1` succeeds; thread 0's compare-exchange `0 -> 1` FAILS and
    reports the value it found (`1`); thread 0 retries at once with the reported value (`1 -> 2`) and succeeds -/
def intCasTrace : List Item :=
  [.call 0 "0" "inc", .call 1 "0" "inc",
   .ev ⟨0, "L", "v0", "Relaxed", 0, 0, 0, true⟩,
   .ev ⟨1, "L", "v0", "Relaxed", 0, 0, 0, true⟩,
   .ev ⟨1, "C", "v0", "Relaxed", 0, 1, 0, true⟩, .ret 1 "0" "",
   .ev ⟨0, "C", "v0", "Relaxed", 0, 1, 1, false⟩,
   .ev ⟨0, "C", "v0", "Relaxed", 1, 2, 1, true⟩, .ret 0 "0" ""]

/-- the state after the first 6 items of `intCasTrace`: thread 1's increment is committed and has returned,
    thread 0 has loaded `0` -/
def intCasS6 : ASt :=
  { float := false, counter := true, mem := 1,
    ths := [{ ops := ["inc"], pc := some (.cas 0) }, { ops := ["inc"], idx := 1 }], lin := [⟨1, 0, "inc", ""⟩] }

theorem intCas_run6 : runItems aItem (aInit false true [["inc"], ["inc"]]) (intCasTrace.take 6) 0 = .ok intCasS6 := by
  simp [runItems, intCasTrace, intCasS6, aItem, aStep, aEv, aEvStart, aEvCas, Conc.guard, aInit, openCall, closeCall,
    repr_0, opName_inc, ordGe_self, casNew, casOrd, isSubOp, intDelta, u64OfInt_one, -getElem?_pos,
    List.getElem?_cons_zero, List.getElem?_cons_succ]

/-- … and after the first 7: thread 0's compare-exchange `0 -> 1` has failed and reported `1` -/
def intCasS7 : ASt :=
  { intCasS6 with ths := [{ ops := ["inc"], pc := some (.retry 1) }, { ops := ["inc"], idx := 1 }] }

theorem intCas_run7 : runItems aItem (aInit false true [["inc"], ["inc"]]) (intCasTrace.take 7) 0 = .ok intCasS7 := by
  rw [runItems_of_take (tr := intCasTrace.take 7) 6 intCas_run6 6]
  simp [runItems, intCasTrace, intCasS6, intCasS7, aItem, aStep, aEv, aEvCas, Conc.guard, opName_inc, ordGe_self,
    casNew, casOrd, isSubOp, intDelta, u64OfInt_one, -getElem?_pos, List.getElem?_cons_zero]

end Prom.C01

namespace Prom.C11
open Prom.Conc Prom.C01

/-- an integer gauge. Thread 0: `inc` (one `fetch_add`), then `set(5)` written as a SWAP (operand `5`, it
    reads the old value `1`, which the caller ignores), then `reset` written as a swap (operand `0`, reads
    `5`); thread 1 `get`s between the two swaps and reads `5` -/
def setSwapTrace : List Item :=
  [.call 0 "0" "inc", .ev ⟨0, "A", "v0", "Relaxed", 1, 0, 0, true⟩, .ret 0 "0" "",
   .call 0 "1" "set:5", .call 1 "0" "get",
   .ev ⟨0, "W", "v0", "Relaxed", 5, 0, 1, true⟩, .ret 0 "1" "",
   .ev ⟨1, "L", "v0", "Relaxed", 0, 0, 5, true⟩, .ret 1 "0" "5",
   .call 0 "2" "reset", .ev ⟨0, "W", "v0", "SeqCst", 0, 0, 5, true⟩, .ret 0 "2" ""]

/-- the state after the first 5 items of `setSwapTrace`: the `inc` has returned, the `set:5` of thread 0 and the `get`
    of thread 1 are open -/
def setSwapS5 : ASt :=
  { float := false, counter := false, mem := 1,
    ths := [{ ops := ["inc", "set:5", "reset"], idx := 1, pc := some .start }, { ops := ["get"], pc := some .start }],
    lin := [⟨0, 0, "inc", ""⟩] }

theorem setSwap_run5 :
    runItems aItem (aInit false false [["inc", "set:5", "reset"], ["get"]]) (setSwapTrace.take 5) 0 = .ok setSwapS5 := by
  simp [runItems, setSwapTrace, setSwapS5, aItem, aStep, aEv, aEvStart, Conc.guard, aInit, openCall, closeCall,
    repr_0, repr_1, opName_inc, opName_get, opName_set_5, u64OfInt_one, ordGe_self, isSubOp, intDelta, -getElem?_pos,
    List.getElem?_cons_zero, List.getElem?_cons_succ]

end Prom.C11
