import Prom.Model.Registry
import Prom.Lemmas.Desc
import Prom.Lemmas.Ident
/- What the names of a gathered family and of its samples are made of (C07, C09): the registry prefix keeps the order
   of names and their validity (`applyPrefix_lt`, `applyPrefix_valid`; `applyPrefix_inj` is a theorem of Props/C07);
   the label names are the descriptor's own (`makeLabelPairs_names`) and the registry's common ones
   (`commonPairs_names`), which `register` keeps apart (`clashesCommon_eq_false`). -/
namespace Prom

theorem applyPrefix_lt (pref : Option Str) {a b : Str} (h : a < b) : applyPrefix pref a < applyPrefix pref b := by
  cases pref with
  | none => exact h
  | some p => exact List.append_left_lt h

theorem prefixed_name_valid {p n : Str} (hp : isValidMetricName p = true) (hn : isValidMetricName n = true) :
    isValidMetricName (p ++ [us] ++ n) = true := by
  cases p with
  | nil => simp [isValidMetricName, isValidIdent] at hp
  | cons c r =>
    have hn' := List.all_eq_true.2 (validIdent_bytes hn).2
    simp only [isValidMetricName, isValidIdent, Bool.and_eq_true] at hp ⊢
    simp only [List.cons_append, Bool.and_eq_true, List.all_append, List.all_cons, List.all_nil,
      Bool.and_true]
    exact ⟨hp.1, ⟨hp.2, by decide⟩, hn'⟩

theorem applyPrefix_valid {pref : Option Str} {n : Str} (hp : ∀ p, pref = some p → isValidMetricName p = true)
    (hn : isValidMetricName n = true) : isValidMetricName (applyPrefix pref n) = true := by
  cases pref with
  | none => exact hn
  | some p => exact prefixed_name_valid (hp p rfl) hn

theorem makeLabelPairs_names {d : Desc} {vs : List Str} {ls : List LabelPair}
    (h : makeLabelPairs d vs = .ok ls) :
    (ls.map (·.name)).Perm (d.varLabels ++ d.constPairs.map (·.name)) := by
  revert h
  fun_cases makeLabelPairs d vs with
  | case1 => intro h; cases h
  | case2 _ h0 =>
    rintro ⟨⟩
    obtain ⟨h1, h2⟩ := Nat.add_eq_zero_iff.1 (beq_iff_eq.1 h0)
    rw [List.length_eq_zero_iff.1 h1, List.length_eq_zero_iff.1 h2]
    exact List.Perm.refl _
  | case3 _ _ he =>
    rintro ⟨⟩
    rw [List.isEmpty_iff.1 he]
    exact List.Perm.refl _
  | case4 hlen _ _ =>
    rintro ⟨⟩
    refine ((stableSortBy_perm lpLe _).map (·.name)).trans ?_
    rw [List.map_append, List.map_map]
    exact List.Perm.of_eq (congrArg (· ++ _) (List.map_fst_zip (Nat.le_of_eq (by simpa using hlen))))

theorem commonPairs_names (labels : Option (List (Str × Str))) :
    ((commonPairs labels).map (·.name)).Perm ((labels.getD []).map (·.1)) := by
  cases labels with
  | none => exact List.Perm.refl _
  | some m => exact sortedPairs_names m

/-- the names are listed as `makeLabelPairs_names` lists them (variable labels first; `clashesCommon` tests the const
    labels first) -/
theorem clashesCommon_eq_false {labels : Option (List (Str × Str))} {d : Desc} (h : clashesCommon labels d = false) :
    ∀ a ∈ d.varLabels ++ d.constPairs.map (·.name), a ∉ (labels.getD []).map (·.1) := by
  cases labels with
  | none => intro a _ ha; cases ha
  | some m =>
    simp only [clashesCommon, List.any_eq_false, List.any_eq_true, not_exists, not_and, beq_iff_eq] at h
    intro a ha hm
    obtain ⟨kv, hkv, hk⟩ := List.mem_map.1 hm
    exact h a (List.mem_append.2 ((List.mem_append.1 ha).symm)) kv hkv hk

end Prom
