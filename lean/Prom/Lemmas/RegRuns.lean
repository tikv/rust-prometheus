import Prom.Lemmas.RegMachine
import Prom.Lemmas.OpLit
/-
Runs of the registry machine (`RRun`, `RReach`), its two program words, and the example traces of
`Props/C06.unregister_precheck_accepted` (run there by `simp` with what the head of `Lemmas/OpLit.lean` lists). The
registry machine is a replay machine without sub-calls: a thread is idle (`pc = none`, `retv = none`) exactly between a
return mark and the next call mark.
-/
namespace Prom.C06
open Prom.Conc Prom.RM Prom.RT

/-- `RRun s s'`: `s'` is reached from `s` by accepting items (a continuation of a run) -/
inductive RRun (s0 : RM.St) : RM.St → Prop
  | init : RRun s0 s0
  | step {s s' it} : RRun s0 s → RM.item s it = .ok s' → RRun s0 s'

theorem rRun_iff_run {s s' : RM.St} : RRun s s' ↔ Run rReplay.item s s' :=
  ⟨fun h => by induction h with | init => exact .init | step _ hs ih => exact .step ih hs,
   fun h => by induction h with | init => exact .init | step _ hs ih => exact .step ih hs⟩

/-- states reachable by the replay machine of one registry used from any number of threads (each
    `register` / `unregister` one critical section under the write lock, each `gather` one under the
    read lock; an `unregister` may first look its collector up under the read lock and end there when
    it is not registered - `unregister_precheck_accepted`), for any interleaving -/
inductive RReach (colls : List Coll) (prog : List (List String)) : RM.St → Prop
  | init : RReach colls prog (RM.init colls prog)
  | step {s s' it} : RReach colls prog s → RM.item s it = .ok s' → RReach colls prog s'

theorem runItems_rReach {colls : List Coll} {prog : List (List String)} {tr : List Item} {s : RM.St}
    (h : runItems RM.item (RM.init colls prog) tr 0 = .ok s) : RReach colls prog s := by
  have hr : Run RM.item (RM.init colls prog) s := .of_runItems h
  clear h
  induction hr with
  | init => exact .init
  | step _ hs ih => exact .step ih hs

theorem rRun_bound {colls : List Coll} {prog : List (List String)} {s : RM.St}
    (h : RRun (RM.init colls prog) s) :
    ∀ e ∈ s.lin, ∃ th, s.ths[e.tid]? = some th ∧ e.idx ≤ th.idx :=
  rReplay.run_bound rfl (rRun_iff_run.1 h)

theorem rRun_th_pres {s s' : RM.St} (h : RRun s s') {t : Nat} {th : Th RPc} (hth : s.ths[t]? = some th) :
    ∃ th', s'.ths[t]? = some th' ∧ th'.ops = th.ops ∧ th.idx ≤ th'.idx :=
  rReplay.run_th_pres (rRun_iff_run.1 h) hth

/-- the entries appended in a continuation belong to calls that had not returned in `s` -/
theorem rRun_new_entries {s s' : RM.St} (h : RRun s s') :
    ∃ ext, s'.lin = s.lin ++ ext ∧ ∀ x ∈ ext, ∃ th, s.ths[x.tid]? = some th ∧ th.idx ≤ x.idx :=
  rReplay.run_new_entries (rRun_iff_run.1 h)

/-- **a call that has not started has no entry**: neither a call the thread has not reached yet, nor
    the next call of an idle thread (no call open, none waiting for its return mark) -/
theorem rRun_no_entry_not_started {colls : List Coll} {prog : List (List String)} {s : RM.St}
    (h : RRun (RM.init colls prog) s) {t i : Nat} {th : Th RPc} (hth : s.ths[t]? = some th)
    (hnot : th.idx < i ∨ (i = th.idx ∧ th.pc = none ∧ th.retv = none)) :
    ∀ e ∈ s.lin, ¬ (e.tid = t ∧ e.idx = i) := by
  have hv := rReplay.run_inv_view rfl rfl (rRun_iff_run.1 h)
  rcases hnot with hn | ⟨hn, hpc, hrv⟩
  · exact rReplay.no_entry_of_view (hv.bound.no_entry_future hth hn)
  · exact rReplay.no_entry_of_view (hv.no_entry_idle hth hn hpc hrv)

theorem splitOn_unreg_0 : "unreg:0".splitOn ":" = ["unreg", "0"] := splitOn_colon (by decide +kernel)
theorem splitOn_reg_0 : "reg:0".splitOn ":" = ["reg", "0"] := splitOn_colon (by decide +kernel)
theorem parseOp_unreg_0 : parseOp "unreg:0" = some (.unregister 0) := by
  simp [parseOp, opName, opArg, splitOn_unreg_0, toNat_0]
theorem parseOp_reg_0 : parseOp "reg:0" = some (.register 0) := by
  simp [parseOp, opName, opArg, splitOn_reg_0, toNat_0]

/-- one thread, `unreg:0` on the empty registry: the collector is looked up under the READ lock, it is
    not registered, the call returns the error - no write lock is taken -/
def unregAbsentTrace : List Item :=
  [.call 0 "0" "unreg:0",
   .ev ⟨0, "R", "lk", "Acquire", 0, 0, 0, true⟩, .ev ⟨0, "r", "lk", "Release", 0, 0, 0, true⟩,
   .ret 0 "0" "err:Msg"]

/-- one thread: `reg:0` (write-locked); then `unreg:0`: the read-locked lookup finds the collector, the
    read lock is released, the collector is removed under the write lock, the call returns "ok" -/
def unregPresentTrace : List Item :=
  [.call 0 "0" "reg:0",
   .ev ⟨0, "X", "lk", "Acquire", 0, 0, 0, true⟩, .ev ⟨0, "x", "lk", "Release", 0, 0, 0, true⟩,
   .ret 0 "0" "ok",
   .call 0 "1" "unreg:0",
   .ev ⟨0, "R", "lk", "Acquire", 0, 0, 0, true⟩, .ev ⟨0, "r", "lk", "Release", 0, 0, 0, true⟩,
   .ev ⟨0, "X", "lk", "Acquire", 0, 0, 0, true⟩, .ev ⟨0, "x", "lk", "Release", 0, 0, 0, true⟩,
   .ret 0 "1" "ok"]

/-- thread 0 as in `unregPresentTrace`, but thread 1 runs its own (pre-checked, successful) `unreg:0` in
    the gap between thread 0's read-locked lookup (collector registered) and its write-locked section:
    the write-locked step decides, thread 0's call returns the error -/
def unregGapTrace : List Item :=
  [.call 0 "0" "reg:0",
   .ev ⟨0, "X", "lk", "Acquire", 0, 0, 0, true⟩, .ev ⟨0, "x", "lk", "Release", 0, 0, 0, true⟩,
   .ret 0 "0" "ok",
   .call 0 "1" "unreg:0",
   .ev ⟨0, "R", "lk", "Acquire", 0, 0, 0, true⟩, .ev ⟨0, "r", "lk", "Release", 0, 0, 0, true⟩,
   .call 1 "0" "unreg:0",
   .ev ⟨1, "R", "lk", "Acquire", 0, 0, 0, true⟩, .ev ⟨1, "r", "lk", "Release", 0, 0, 0, true⟩,
   .ev ⟨1, "X", "lk", "Acquire", 0, 0, 0, true⟩, .ev ⟨1, "x", "lk", "Release", 0, 0, 0, true⟩,
   .ret 1 "0" "ok",
   .ev ⟨0, "X", "lk", "Acquire", 0, 0, 0, true⟩, .ev ⟨0, "x", "lk", "Release", 0, 0, 0, true⟩,
   .ret 0 "1" "err:Msg"]

end Prom.C06
