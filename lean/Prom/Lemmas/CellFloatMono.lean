import Prom.Lemmas.CellMono
import Prom.Lemmas.F64Order
import Prom.Lemmas.OpLit
/-
Whole-run monotonicity of the FLOAT counter cell (C01, `float = true`). The one fact about IEEE addition that is needed
for ALL operands, and that no evaluation gives, is a named hypothesis, `AddMono`. Under it an increment-only log passes
the executable check `floatStepsMonoB` (`floatStepsMonoB_of_addMono`), which the driver evaluates on the commit log of
every replayed float-counter run: the hypothesis is discharged per run, on exactly the additions that happened. From the
check alone the values along the log are ordered (`float_values_monotone_from`).
-/
namespace Prom.C01
open Prom.Conc

/-- the assumed behaviour of IEEE-754 binary64 addition (round to nearest even): adding a
    non-negative, non-NaN delta to a non-negative, non-NaN value does not give a smaller value and
    does not give NaN -/
def AddMono : Prop :=
  ∀ v d : UInt64, f64Le 0 v = true → f64Le 0 d = true → f64Le v (f64Add v d) = true

/-- every operation of the log is a `get` or an add of a delta `>= +0` -/
def FloatIncOnly (l : List LinEv) : Prop := ∀ x ∈ l, floatIncOp x.op = true

theorem floatStepsMonoB_cons {v : UInt64} {x : LinEv} {r : List LinEv}
    (hm : floatStepsMonoB v (x :: r) = true) :
    ∃ v' rv, specApply true v x.op = some (v', rv) ∧ f64Le v v' = true ∧ floatStepsMonoB v' r = true := by
  unfold floatStepsMonoB at hm
  split at hm
  · next v' rv hsp =>
    simp only [Bool.and_eq_true] at hm
    exact ⟨v', rv, hsp, hm.1, hm.2⟩
  · cases hm

theorem float_values_monotone_from (v : UInt64) (l : List LinEv) (hm : floatStepsMonoB v l = true) :
    (∀ u ∈ valuesAlong true v l, f64Le v u = true) ∧
      List.Pairwise (fun a b => f64Le a b = true) (valuesAlong true v l) := by
  induction l generalizing v with
  | nil => simp [valuesAlong]
  | cons x r ih =>
    obtain ⟨v', rv, hsp, hle, hr⟩ := floatStepsMonoB_cons hm
    obtain ⟨ih1, ih2⟩ := ih v' hr
    rw [valuesAlong_cons r hsp]
    refine ⟨?_, List.pairwise_cons.mpr ⟨ih1, ih2⟩⟩
    intro u hu
    rcases List.mem_cons.mp hu with rfl | hu
    · exact hle
    · exact f64Le_trans hle (ih1 u hu)

theorem float_values_ge_start {v : UInt64} {l : List LinEv} (hm : floatStepsMonoB v l = true)
    {i : Nat} {vi : UInt64} (hi : (valuesAlong true v l)[i]? = some vi) :
    f64Le v vi = true :=
  (float_values_monotone_from v l hm).1 vi (List.mem_of_getElem? hi)

theorem floatStepsMonoB_of_addMono (ha : AddMono) {v : UInt64} {l : List LinEv}
    (hv : f64Le 0 v = true) (hi : FloatIncOnly l) : floatStepsMonoB v l = true := by
  induction l generalizing v with
  | nil => rfl
  | cons x r ih =>
    have hx := hi x (List.mem_cons_self ..)
    have hr : FloatIncOnly r := fun y hy => hi y (List.mem_cons_of_mem _ hy)
    have hnn : f64IsNaN v = false := ((f64Le_iff 0 v).mp hv).2.1
    unfold floatIncOp at hx
    by_cases hg : opName x.op = "get"
    · unfold floatStepsMonoB
      simp only [specApply_get true v hg, Bool.and_eq_true]
      exact ⟨f64Le_refl hnn, ih hv hr⟩
    · have hgb : (opName x.op == "get") = false := by simpa using hg
      rw [hgb, Bool.false_or] at hx
      split at hx
      · next d hd =>
        have hstep := ha v d hv hx
        unfold floatStepsMonoB
        simp only [specApply_float_delta v hd, Bool.and_eq_true]
        exact ⟨hstep, ih (f64Le_trans hv hstep) hr⟩
      · cases hx

/-- the step check is not vacuous: it accepts `inc; get` from `+0` (`h1`: `+0 <= +0 + 1.0`) -/
theorem floatStepsMonoB_accepts_example (h1 : f64Le 0 (f64Add 0 (f64OfInt 1)) = true) :
    floatStepsMonoB 0 [⟨0, 0, "inc", ""⟩, ⟨1, 0, "get", hexStr (f64Add 0 (f64OfInt 1))⟩] = true := by
  have hd : floatDelta "inc" = some (f64OfInt 1) := by simp [floatDelta, opName_inc]
  have hnn : f64IsNaN (f64Add 0 (f64OfInt 1)) = false := ((f64Le_iff _ _).mp h1).2.1
  simp only [floatStepsMonoB, specApply_float_delta 0 hd, specApply_get_lit, h1, f64Le_refl hnn,
    Bool.and_self]

end Prom.C01
