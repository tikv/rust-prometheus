import Prom.Model.TextParse
/- escape / unescape / the quoted-value reader, byte by byte: the four ways a byte is written
   (`escByte_cases`), what each reader does on one written byte, and from that the whole-string results.
   Those stand in the sub-namespace `Esc`: their plain names in `Prom.C04` belong to the property theorems
   of `Props/C04.lean`, and the round-trip lemmas (`TextRT`) need them below that file. -/
namespace Prom.C04
open Prom.Text Prom.TextParse

theorem escByte_cases (q : Bool) (b : UInt8) :
    (escByte q b = [b] ∧ b ≠ 92 ∧ b ≠ 10 ∧ (q = true → b ≠ 34)) ∨ (escByte q b = [92, 92] ∧ b = 92) ∨
    (escByte q b = [92, 110] ∧ b = 10) ∨ (escByte q b = [92, 34] ∧ b = 34 ∧ q = true) := by
  unfold escByte
  split
  · exact .inr (.inl ⟨rfl, beq_iff_eq.1 ‹_›⟩)
  split
  · exact .inr (.inr (.inl ⟨rfl, beq_iff_eq.1 ‹_›⟩))
  split
  · rename_i h; rw [Bool.and_eq_true] at h; exact .inr (.inr (.inr ⟨rfl, beq_iff_eq.1 h.2, h.1⟩))
  · rename_i h1 h2 h3
    exact .inl ⟨rfl, fun e => h1 (beq_iff_eq.2 e), fun e => h2 (beq_iff_eq.2 e), fun hq e => h3 (by rw [hq, e]; rfl)⟩

theorem escByte_of_not_special {q : Bool} {b : UInt8} (h : isSpecial q b = false) : escByte q b = [b] := by
  simp only [isSpecial, Bool.or_eq_false_iff] at h
  simp only [escByte, h.1.1, h.1.2, h.2, Bool.false_eq_true, if_false]

theorem unescape_cons_other (q : Bool) (b : UInt8) (r : Str) (h : b ≠ 92) :
    unescape q (b :: r) = (unescape q r).map (b :: ·) := by
  simp [unescape, h]

theorem readQuoted_cons_other (b : UInt8) (r acc : Str) (h1 : b ≠ 92) (h2 : b ≠ 34) :
    readQuoted (b :: r) acc = readQuoted r (b :: acc) := by
  simp [readQuoted, h1]

namespace Esc

theorem escape_eq_flatMap (q : Bool) (v : Str) : escapeString q v = v.flatMap (escByte q) := by
  induction v with
  | nil => rfl
  | cons a t ih =>
    unfold escapeString at ih ⊢
    rw [List.findIdx?_cons]
    cases ha : isSpecial q a
    · rw [List.flatMap_cons, escByte_of_not_special ha, ← ih]
      cases t.findIdx? (isSpecial q) <;> rfl
    · rfl

theorem unescape_escByte (q : Bool) (b : UInt8) (r : Str) : unescape q (escByte q b ++ r) = (unescape q r).map (b :: ·) := by
  rcases escByte_cases q b with ⟨e, h, -, -⟩ | ⟨e, rfl⟩ | ⟨e, rfl⟩ | ⟨e, rfl, rfl⟩ <;> rw [e]
  · exact unescape_cons_other q b r h
  all_goals simp [unescape]

theorem unescape_escape (q : Bool) (v : Str) : unescape q (escapeString q v) = some v := by
  rw [escape_eq_flatMap]
  induction v with
  | nil => rfl
  | cons a t ih => rw [List.flatMap_cons, unescape_escByte, ih]; rfl

theorem escape_no_newline (q : Bool) (v : Str) : (10 : UInt8) ∉ escapeString q v := by
  rw [escape_eq_flatMap]
  intro h
  obtain ⟨b, _, hb⟩ := List.mem_flatMap.1 h
  rcases escByte_cases q b with ⟨e, -, h2, -⟩ | ⟨e, -⟩ | ⟨e, -⟩ | ⟨e, -⟩ <;> rw [e] at hb <;> simp at hb
  exact h2 hb.symm

theorem readQuoted_escByte (b : UInt8) (r acc : Str) :
    readQuoted (escByte true b ++ r) acc = readQuoted r ((escByte true b).reverse ++ acc) := by
  rcases escByte_cases true b with ⟨e, h1, -, h3⟩ | ⟨e, rfl⟩ | ⟨e, rfl⟩ | ⟨e, rfl, -⟩ <;> rw [e]
  · exact readQuoted_cons_other b r acc h1 (h3 rfl)
  all_goals simp [readQuoted]

theorem quoted_value_reads_back (v : Str) (rest : Str) :
    ∀ acc, readQuoted (v.flatMap (escByte true) ++ 34 :: rest) acc = some (acc.reverse ++ v.flatMap (escByte true), rest) := by
  induction v with
  | nil => intro acc; simp [readQuoted]
  | cons a t ih => intro acc; simp [List.flatMap_cons, readQuoted_escByte, ih]

theorem label_value_roundtrip (v rest : Str) :
    (readQuoted (escapeString true v ++ 34 :: rest) []).bind (fun p => (unescape true p.1).map (fun x => (x, p.2)))
      = some (v, rest) := by
  rw [escape_eq_flatMap, quoted_value_reads_back]
  simp only [List.reverse_nil, List.nil_append, Option.bind_some]
  rw [← escape_eq_flatMap, unescape_escape]
  rfl

end Esc
end Prom.C04
