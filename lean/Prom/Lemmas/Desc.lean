import Prom.Model.Desc
import Prom.Lemmas.Sort
import Prom.Lemmas.ListAux
/-
`Desc::new` (C09, C15, C17; `sortedPairs_perm_eq` also serves the common labels of C07). The two name loops
(`constNames`, `varNames`) are each described once, by `…_eq_some_iff`: the loop succeeds exactly when the names are
valid and new, and its result is then the insertion of the keys into the sorted set (`insertAll`). Membership,
sortedness, independence of the order of the inputs follow from the facts about `insertBy` in `Lemmas/Sort.lean`.
-/
namespace Prom

/-- the sorted set after inserting `xs` one by one -/
def insertAll (xs acc : List Str) : List Str := xs.foldl (fun a x => insertBy strLe x a) acc

theorem insertAll_perm (xs acc : List Str) : (insertAll xs acc).Perm (acc ++ xs) :=
  foldl_insertBy_perm strLe xs acc

theorem mem_insertAll (xs acc : List Str) (x : Str) : x ∈ insertAll xs acc ↔ x ∈ acc ∨ x ∈ xs := by
  rw [(insertAll_perm xs acc).mem_iff, List.mem_append]

theorem insertAll_sorted (xs : List Str) {acc : List Str} (h : acc.Pairwise (fun x y => strLe x y = true)) :
    (insertAll xs acc).Pairwise (fun x y => strLe x y = true) :=
  List.foldlRecOn xs _ h fun _ h a _ => insertBy_pairwise strLe_trans strLe_total a h

theorem insertAll_perm_eq {xs ys acc : List Str} (hp : xs.Perm ys)
    (h : acc.Pairwise (fun x y => strLe x y = true)) : insertAll xs acc = insertAll ys acc :=
  List.Perm.eq_of_pairwise (le := fun x y => strLe x y = true) (fun a b _ _ => strLe_antisymm a b)
    (insertAll_sorted xs h) (insertAll_sorted ys h)
    ((insertAll_perm xs acc).trans ((List.Perm.append_left acc hp).trans (insertAll_perm ys acc).symm))

theorem setInsert_eq_none (s : List Str) (x : Str) : setInsert s x = none ↔ x ∈ s := by
  unfold setInsert; split <;> simp_all

theorem setInsert_eq_some (s r : List Str) (x : Str) :
    setInsert s x = some r ↔ x ∉ s ∧ r = insertBy strLe x s := by
  unfold setInsert; split <;> simp_all [eq_comm]

theorem valid_not_dollar {n : Str} (h : isValidLabelName n = true) : ∀ m, n ≠ dollar :: m := by
  intro m e
  subst e
  simp [isValidLabelName, isValidIdent, labelStart, isAsciiAlpha, dollar] at h

theorem constNames_eq_some_iff : ∀ (cl : List (Str × Str)) (acc r : List Str),
    constNames cl acc = some r ↔
      (∀ p ∈ cl, isValidLabelName p.1 = true) ∧ (cl.map (·.1)).Nodup ∧ (∀ p ∈ cl, p.1 ∉ acc) ∧
      r = insertAll (cl.map (·.1)) acc := by
  intro cl
  induction cl with
  | nil => intro acc r; simpa [constNames, insertAll] using eq_comm
  | cons p t ih =>
    intro acc r
    obtain ⟨k, v⟩ := p
    have step : constNames ((k, v) :: t) acc = some r ↔
        isValidLabelName k = true ∧ k ∉ acc ∧ constNames t (insertBy strLe k acc) = some r := by
      rw [constNames]
      cases isValidLabelName k
      · simp
      · cases hs : setInsert acc k with
        | none => simp [(setInsert_eq_none acc k).1 hs]
        | some a =>
          obtain ⟨hk, rfl⟩ := (setInsert_eq_some _ _ _).1 hs
          simp [hk]
    rw [step, ih]
    simp only [List.mem_cons, forall_eq_or_imp, List.map_cons, List.nodup_cons, mem_insertBy, not_or,
      List.mem_map, not_exists, not_and]
    constructor
    · rintro ⟨hv, hk, h1, h2, h3, rfl⟩
      exact ⟨⟨hv, h1⟩, ⟨fun q hq e => (h3 q hq).1 e, h2⟩, ⟨hk, fun q hq => (h3 q hq).2⟩, rfl⟩
    · rintro ⟨⟨hv, h1⟩, ⟨hk', h2⟩, ⟨hk, h3⟩, rfl⟩
      exact ⟨hv, hk, h1, h2, fun q hq => ⟨hk' q hq, h3 q hq⟩, rfl⟩

theorem varNames_eq_some_iff : ∀ (vl : List Str) (acc r : List Str),
    varNames vl acc = some r ↔
      (∀ n ∈ vl, isValidLabelName n = true) ∧ vl.Nodup ∧ (∀ n ∈ vl, n ∉ acc ∧ (dollar :: n) ∉ acc) ∧
      r = insertAll (vl.map (dollar :: ·)) acc := by
  intro vl
  induction vl with
  | nil => intro acc r; simpa [varNames, insertAll] using eq_comm
  | cons n t ih =>
    intro acc r
    have step : varNames (n :: t) acc = some r ↔
        isValidLabelName n = true ∧ n ∉ acc ∧ (dollar :: n) ∉ acc ∧
        varNames t (insertBy strLe (dollar :: n) acc) = some r := by
      rw [varNames]
      cases isValidLabelName n
      · simp
      · by_cases hn : n ∈ acc
        · simp [hn]
        · cases hs : setInsert acc (dollar :: n) with
          | none => simp [hn, (setInsert_eq_none _ _).1 hs]
          | some a =>
            obtain ⟨hk, rfl⟩ := (setInsert_eq_some _ _ _).1 hs
            simp [hn, hk]
    rw [step, ih]
    simp only [List.mem_cons, forall_eq_or_imp, List.map_cons, List.nodup_cons, mem_insertBy, not_or,
      List.cons.injEq, true_and]
    constructor
    · rintro ⟨hv, hn, hd, h1, h2, h3, rfl⟩
      exact ⟨⟨hv, h1⟩, ⟨fun hm => (h3 n hm).2.1 rfl, h2⟩, ⟨⟨hn, hd⟩, fun m hm => ⟨(h3 m hm).1.2, (h3 m hm).2.2⟩⟩, rfl⟩
    · rintro ⟨⟨hv, h1⟩, ⟨hn', h2⟩, ⟨⟨hn, hd⟩, h3⟩, rfl⟩
      -- a later name `m` is not `$n`: it is a valid label name
      exact ⟨hv, hn, hd, h1, h2, fun m hm => ⟨⟨valid_not_dollar (h1 m hm) n, (h3 m hm).1⟩,
        fun e => hn' (e ▸ hm), (h3 m hm).2⟩, rfl⟩

theorem constNames_mem (cl : List (Str × Str)) (acc r : List Str) (h : constNames cl acc = some r) (x : Str) :
    x ∈ r ↔ x ∈ acc ∨ x ∈ cl.map (·.1) := by
  rw [((constNames_eq_some_iff cl acc r).1 h).2.2.2, mem_insertAll]

theorem varNames_mem (vl : List Str) (acc r : List Str) (h : varNames vl acc = some r) (x : Str) :
    x ∈ r ↔ x ∈ acc ∨ x ∈ vl.map (dollar :: ·) := by
  rw [((varNames_eq_some_iff vl acc r).1 h).2.2.2, mem_insertAll]

/-- the descriptor `Desc::new` returns when it accepts: the name set is the sorted set of the const
    names and the `$`-prefixed variable names -/
def Desc.built (fq help : Str) (vl : List Str) (cl : List (Str × Str)) : Desc :=
  { fqName := fq, help := help,
    constPairs := stableSortBy lpLe (cl.map fun p => ⟨p.1, p.2⟩), varLabels := vl,
    id := fnv1a (idBytes fq ((insertAll (cl.map (·.1)) []).map (lookup cl))),
    dimHash := fnv1a (dimBytes help (insertAll (vl.map (dollar :: ·)) (insertAll (cl.map (·.1)) []))) }

theorem Desc.new_eq_some_iff (fq help : Str) (vl : List Str) (cl : List (Str × Str)) (d : Desc) :
    Desc.new fq help vl cl = some d ↔
      help ≠ [] ∧ isValidMetricName fq = true ∧
      (∀ p ∈ cl, isValidLabelName p.1 = true) ∧ (∀ n ∈ vl, isValidLabelName n = true) ∧
      (cl.map (·.1) ++ vl).Nodup ∧ d = Desc.built fq help vl cl := by
  have hnew : Desc.new fq help vl cl = some d ↔ help ≠ [] ∧ isValidMetricName fq = true ∧
      ∃ cn, constNames cl [] = some cn ∧ ∃ names, varNames vl cn = some names ∧
        d = { fqName := fq, help := help,
              constPairs := stableSortBy lpLe (cl.map fun p => ⟨p.1, p.2⟩), varLabels := vl,
              id := fnv1a (idBytes fq (cn.map (lookup cl))), dimHash := fnv1a (dimBytes help names) } := by
    unfold Desc.new
    cases help with
    | nil => simp
    | cons b t =>
      cases isValidMetricName fq with
      | false => simp
      | true =>
        cases constNames cl [] with
        | none => simp
        | some cn =>
          simp only [List.isEmpty_cons, Bool.false_eq_true, if_false, Bool.not_true, Option.some.injEq, ne_eq,
            reduceCtorEq, not_false_eq_true, true_and, exists_eq_left']
          cases varNames vl cn with
          | none => simp
          | some names =>
            simp only [Option.some.injEq, exists_eq_left']
            exact eq_comm
  rw [hnew]
  refine and_congr_right fun _ => and_congr_right fun _ => ?_
  have hmem : ∀ x, x ∈ insertAll (cl.map (·.1)) [] ↔ x ∈ cl.map (·.1) := fun x => by simp [mem_insertAll]
  constructor
  · rintro ⟨cn, hcn, names, hnames, rfl⟩
    obtain ⟨hc, hcnd, _, rfl⟩ := (constNames_eq_some_iff _ _ _).1 hcn
    obtain ⟨hv, hvnd, hd, rfl⟩ := (varNames_eq_some_iff _ _ _).1 hnames
    refine ⟨hc, hv, List.nodup_append.2 ⟨hcnd, hvnd, ?_⟩, rfl⟩
    rintro a ha _ hb rfl
    exact (hd a hb).1 ((hmem a).2 ha)
  · rintro ⟨hc, hv, hnd, rfl⟩
    obtain ⟨hcnd, hvnd, hd⟩ := List.nodup_append.1 hnd
    refine ⟨_, (constNames_eq_some_iff _ _ _).2 ⟨hc, hcnd, by simp, rfl⟩, _,
      (varNames_eq_some_iff _ _ _).2 ⟨hv, hvnd, fun n hn => ⟨fun hm => ?_, fun hm => ?_⟩, rfl⟩, rfl⟩
    · exact hd n ((hmem n).1 hm) n hn rfl
    · -- `$n` is not a const name: those are valid label names
      obtain ⟨p, hp, hpe⟩ := List.mem_map.1 ((hmem _).1 hm)
      exact valid_not_dollar (hc p hp) n hpe

theorem lookup_eq_alook (m : List (Str × Str)) (k : Str) : lookup m k = (alook m k).getD [] := by
  unfold lookup alook; cases m.find? (·.1 == k) <;> rfl

theorem lookup_perm_invariant {cl cl' : List (Str × Str)} (hp : cl.Perm cl') (hn : (cl.map (·.1)).Nodup) (k : Str) :
    lookup cl k = lookup cl' k := by
  rw [lookup_eq_alook, lookup_eq_alook, alook_perm hp hn]

/-- label pairs made from a map with pairwise distinct keys sort to the same list whatever the
    iteration order of the map (const labels of a descriptor, common labels of a registry) -/
theorem sortedPairs_perm_eq {m m' : List (Str × Str)} (hp : m.Perm m') (hk : (m.map (·.1)).Nodup) :
    stableSortBy lpLe (m.map fun p => (⟨p.1, p.2⟩ : LabelPair)) = stableSortBy lpLe (m'.map fun p => ⟨p.1, p.2⟩) := by
  refine stableSortBy_perm_eq (le := lpLe) (fun _ _ _ => strLe_trans _ _ _) (fun _ _ => strLe_total _ _) (hp.map _) ?_
  intro a b ha hb h1 h2
  obtain ⟨p, hp1, rfl⟩ := List.mem_map.1 ha
  obtain ⟨q, hq1, rfl⟩ := List.mem_map.1 hb
  -- keys are unique, so equal names mean the same entry
  rw [eq_of_nodup_map (·.1) hk hp1 hq1 (strLe_antisymm p.1 q.1 h1 h2)]

theorem sortedPairs_names (m : List (Str × Str)) :
    ((stableSortBy lpLe (m.map fun p => (⟨p.1, p.2⟩ : LabelPair))).map (·.name)).Perm (m.map (·.1)) := by
  refine ((stableSortBy_perm lpLe _).map (·.name)).trans ?_
  simp [List.map_map, Function.comp_def]

theorem Desc.built_perm_const (fq help : Str) (vl : List Str) {cl cl' : List (Str × Str)} (hp : cl.Perm cl')
    (hk : (cl.map (·.1)).Nodup) : Desc.built fq help vl cl = Desc.built fq help vl cl' := by
  unfold Desc.built
  rw [sortedPairs_perm_eq hp hk, ← insertAll_perm_eq (hp.map (·.1)) List.Pairwise.nil,
    List.map_congr_left fun k _ => lookup_perm_invariant hp hk k]

end Prom
