import Prom.Lemmas.RegLoop
/-
`unregister_cases` (`Reg.unregister` case by case, the twin of `register_cases`), and the registry over histories of
calls (`ROp`, `stepR`; C06). `RegInv`: the id set is the ids of the registered collectors, the recorded dimension
hashes are those of every descriptor ever admitted; `regInv_history` keeps it along a history whose unregister calls
name their collector by its descriptors (`WellKeyed`, `WellKeyedHist`); `descOk_iff` says admission in those terms.
-/
namespace Prom.C06

theorem unregister_cases (r : Reg) (c : Coll) :
    (r.collectors.any (·.1 == cidOf (distinctIds c.descs [])) = true ∧
      r.unregister c = ({ r with collectors := r.collectors.filter (·.1 != cidOf (distinctIds c.descs [])),
                                 descIds := r.descIds.filter (fun i => !(distinctIds c.descs []).contains i) }, .ok ())) ∨
    (r.collectors.any (·.1 == cidOf (distinctIds c.descs [])) = false ∧ r.unregister c = (r, .error .msg)) := by
  unfold Reg.unregister
  cases h : r.collectors.any (·.1 == cidOf (distinctIds c.descs []))
  · exact Or.inr ⟨rfl, by simp [h]⟩
  · exact Or.inl ⟨rfl, by simp [h]⟩

theorem distinctIds_of_nodup : ∀ (ds : List Desc) (acc : List UInt64), (acc ++ ds.map (·.id)).Nodup →
    distinctIds ds acc = acc ++ ds.map (·.id) := by
  intro ds
  induction ds with
  | nil => intro acc _; simp [distinctIds]
  | cons d t ih =>
    intro acc h
    have hd : d.id ∉ acc := fun hm =>
      (List.nodup_cons.1 (List.perm_middle.nodup_iff.1 h)).1 (List.mem_append_left _ hm)
    rw [List.map_cons, List.append_cons] at h
    rw [distinctIds, if_neg (by simpa using hd), ih _ h, List.map_cons]
    exact (List.append_cons ..).symm

/-- the descriptor ids of the registered collectors -/
def curIds (r : Reg) : List UInt64 := r.collectors.flatMap (fun p => p.2.descs.map (·.id))

/-- `ever`: the descriptors of every registration that succeeded so far. The recorded signatures are
    exactly what they wrote, one after the other (`unregister` leaves them alone). -/
structure RegInv (r : Reg) (ever : List Desc) : Prop where
  ids_iff : ∀ i, i ∈ r.descIds ↔ i ∈ curIds r
  nodup : (curIds r).Nodup
  dims : r.dimHashes = (ever.map descKv).foldl ins []
  consistent : SelfConsistent ever

theorem regInv_init (labels : Option (List (Str × Str))) (pref : Option Str) :
    RegInv { labels := labels, pref := pref } [] where
  ids_iff := by intro i; simp [curIds]
  nodup := by simp [curIds]
  dims := rfl
  consistent := by intro d hd; cases hd

theorem descOk_iff {r : Reg} {ever : List Desc} (inv : RegInv r ever) (d : Desc) :
    DescOk r d ↔ clashesCommon r.labels d = false ∧ d.id ∉ curIds r ∧ ∀ e ∈ ever, e.fqName = d.fqName → e.dimHash = d.dimHash := by
  unfold DescOk
  rw [← inv.ids_iff, ← List.contains_iff_mem, Bool.not_eq_true, inv.dims]
  refine and_congr_right fun _ => and_congr_right fun _ => ?_
  simp only [dimLookup_staged inv.consistent]
  exact ⟨fun h3 e he hn => (h3 _ ⟨e, he, hn, rfl⟩).symm ▸ rfl, fun h3 h ⟨e, he, hn, hh⟩ => hh ▸ h3 e he hn⟩

theorem regInv_register {r : Reg} {ever : List Desc} (inv : RegInv r ever) (c : Coll) (hacc : Accepted r c.descs) :
    RegInv { r with collectors := r.collectors ++ [(cidOf (c.descs.map (·.id)), c)],
                    descIds := r.descIds ++ c.descs.map (·.id),
                    dimHashes := (c.descs.map descKv).foldl ins r.dimHashes } (ever ++ c.descs) := by
  obtain ⟨hok, hnd, hself⟩ := hacc
  have hok' := fun d hd => (descOk_iff inv d).1 (hok d hd)
  have hcur : ∀ r' : Reg, r'.collectors = r.collectors ++ [(cidOf (c.descs.map (·.id)), c)] →
      curIds r' = curIds r ++ c.descs.map (·.id) := by
    intro r' h; simp [curIds, h, List.flatMap_append]
  refine ⟨fun i => ?_, ?_, ?_, ?_⟩
  · rw [hcur _ rfl, List.mem_append, List.mem_append, inv.ids_iff]
  · rw [hcur _ rfl, List.nodup_append]
    refine ⟨inv.nodup, hnd, ?_⟩
    rintro a ha _ hb rfl
    obtain ⟨d, hd, rfl⟩ := List.mem_map.1 hb
    exact (hok' d hd).2.1 ha
  · show (c.descs.map descKv).foldl ins r.dimHashes = _
    rw [inv.dims, List.map_append, List.foldl_append]
  · intro a ha b hb e
    rcases List.mem_append.1 ha with ha | ha <;> rcases List.mem_append.1 hb with hb | hb
    · exact inv.consistent a ha b hb e
    · exact (hok' b hb).2.2 a ha e
    · exact ((hok' a ha).2.2 b hb e.symm).symm
    · exact hself a ha b hb e

/-- the collector handed to `unregister` names the registered collector by its descriptors (not only
    by a colliding wrapping sum of ids) -/
def WellKeyed (r : Reg) (c : Coll) : Prop :=
  ∀ p ∈ r.collectors, p.1 = cidOf (distinctIds c.descs []) → p.2.descs.map (·.id) = distinctIds c.descs []

theorem regInv_unregister {r : Reg} {ever : List Desc} (inv : RegInv r ever) (c : Coll) (hwk : WellKeyed r c)
    (hany : r.collectors.any (·.1 == cidOf (distinctIds c.descs [])) = true) :
    RegInv { r with collectors := r.collectors.filter (·.1 != cidOf (distinctIds c.descs [])),
                    descIds := r.descIds.filter (fun i => !(distinctIds c.descs []).contains i) } ever := by
  obtain ⟨p0, hp0, hp0c⟩ := List.any_eq_true.1 hany
  have hp0c : p0.1 = cidOf (distinctIds c.descs []) := eq_of_beq hp0c
  refine ⟨fun i => ?_, nodup_flatMap_filter _ _ inv.nodup, inv.dims, inv.consistent⟩
  simp only [curIds, List.mem_filter, List.mem_flatMap, bne_iff_ne, Bool.not_eq_true', List.contains_eq_mem, decide_eq_false_iff_not]
  constructor
  · rintro ⟨hi, hnot⟩
    obtain ⟨q, hq, hiq⟩ := List.mem_flatMap.1 ((inv.ids_iff i).1 hi)
    exact ⟨q, ⟨hq, fun e => hnot (hwk q hq e ▸ hiq)⟩, hiq⟩
  · rintro ⟨q, ⟨hq, hqc⟩, hiq⟩
    refine ⟨(inv.ids_iff i).2 (List.mem_flatMap.2 ⟨q, hq, hiq⟩), fun hi => hqc ?_⟩
    -- `i` is an id of `p0` as well, so `q` is `p0`
    rw [← hwk p0 hp0 hp0c] at hi
    exact eq_of_nodup_flatMap _ inv.nodup hq hp0 hiq hi ▸ hp0c

inductive ROp
  | reg (c : Coll)
  | unreg (c : Coll)

def everAfter : Except RErr Unit → List Desc → List Desc → List Desc
  | .ok _, ever, ds => ever ++ ds
  | .error _, ever, _ => ever

/-- one call: the registry and the descriptors ever admitted -/
def stepR (s : Reg × List Desc) : ROp → Reg × List Desc
  | .reg c => ((s.1.register c).1, everAfter (s.1.register c).2 s.2 c.descs)
  | .unreg c => ((s.1.unregister c).1, s.2)

/-- every unregister call of the history is well keyed at its point -/
def WellKeyedHist : Reg × List Desc → List ROp → Prop
  | _, [] => True
  | s, .reg c :: ops => WellKeyedHist (stepR s (.reg c)) ops
  | s, .unreg c :: ops => WellKeyed s.1 c ∧ WellKeyedHist (stepR s (.unreg c)) ops

theorem regInv_history : ∀ (ops : List ROp) (s : Reg × List Desc), RegInv s.1 s.2 → WellKeyedHist s ops →
    RegInv (ops.foldl stepR s).1 (ops.foldl stepR s).2 := by
  intro ops
  induction ops with
  | nil => intro s inv _; exact inv
  | cons op t ih =>
    intro s inv hwk
    cases op with
    | reg c =>
      refine ih _ ?_ hwk
      show RegInv (s.1.register c).1 (everAfter (s.1.register c).2 s.2 c.descs)
      rcases register_cases s.1 c with ⟨e, _, _, h⟩ | ⟨_, _, _, hacc, ⟨_, h⟩ | ⟨_, h⟩⟩ <;> rw [h]
      · exact inv
      · exact inv
      · exact regInv_register inv c hacc
    | unreg c =>
      refine ih _ ?_ hwk.2
      show RegInv (s.1.unregister c).1 s.2
      rcases unregister_cases s.1 c with ⟨hany, h⟩ | ⟨_, h⟩ <;> rw [h]
      · exact regInv_unregister inv c hwk.1 hany
      · exact inv

theorem stepR_labels (s : Reg × List Desc) (op : ROp) : (stepR s op).1.labels = s.1.labels := by
  cases op with
  | reg c => rcases register_cases s.1 c with ⟨e, _, _, h⟩ | ⟨_, _, _, _, ⟨_, h⟩ | ⟨_, h⟩⟩ <;> simp only [stepR, h]
  | unreg c => rcases unregister_cases s.1 c with ⟨_, h⟩ | ⟨_, h⟩ <;> simp only [stepR, h]

theorem foldl_stepR_labels (ops : List ROp) (s : Reg × List Desc) : (ops.foldl stepR s).1.labels = s.1.labels :=
  List.foldlRecOn ops stepR (motive := fun s' => s'.1.labels = s.1.labels) rfl
    fun s' h op _ => (stepR_labels s' op).trans h

end Prom.C06
