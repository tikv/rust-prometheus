import Prom.Lemmas.LocalHist
import Prom.Lemmas.ListAux
/- The worlds of one shared counter / histogram with any number of local handles (`CW`, `HW`; handles
   are list positions, clones and new locals append): the conservation invariant and that every
   operation keeps it (C12). -/
namespace Prom.C12

def CInv (w : CW) : Prop := w.shared + w.locals.sum + w.discarded = w.totalIn

theorem sum_set {l : List Nat} {i p : Nat} (v : Nat) (h : l[i]? = some p) :
    (l.set i v).sum + p = l.sum + v := by
  simpa using sum_map_set id v h

theorem cstep_inv (w : CW) (op : COp) (h : CInv w) : CInv (w.step op) := by
  unfold CInv at *
  cases op with
  | linc hd d =>
    simp only [CW.step]
    split
    · next p hl =>
      have := sum_set (p + d) hl
      simp only []  -- reduces the projections of the record the step built (`omega` does not); so below
      omega
    · exact h
  | lflush hd =>
    simp only [CW.step]
    split
    · next p hl =>
      split
      · exact h
      · have := sum_set 0 hl; simp only []; omega
    · exact h
  | lreset hd =>
    simp only [CW.step]
    split
    · next p hl =>
      have := sum_set 0 hl
      simp only []
      omega
    · exact h
  | lclone hd =>
    simp only [CW.step]
    split
    · simp only [List.sum_append, List.sum_cons, List.sum_nil]; omega
    · exact h
  | lnew => simp only [CW.step, List.sum_append, List.sum_cons, List.sum_nil]; omega
  | sinc d => simp only [CW.step]; omega
  | sreset => simp only [CW.step]; omega

theorem pending_set {ls : List (Option LH)} {i : Nat} {o : Option LH} (n : Option LH) (h : ls[i]? = some o) :
    pendingCount (ls.set i n) + optCount o = pendingCount ls + optCount n :=
  sum_map_set optCount n h

theorem pending_append (ls : List (Option LH)) (o : Option LH) :
    pendingCount (ls ++ [o]) = pendingCount ls + optCount o := by
  simp [pendingCount]

def HInv (w : HW) : Prop := w.shared.count + pendingCount w.locals + w.discardedObs = w.totalObs

theorem hstep_inv (add) (w : HW) (op : HOp) (h : HInv w) : HInv (w.step add op) := by
  unfold HInv at *
  cases op with
  | lobs hd v =>
    simp only [HW.step]
    split
    · next l hl =>
      have := pending_set (some (l.observe add w.shared.bounds v)) hl
      simp only [optCount, LH.observe] at this ⊢
      omega
    · exact h
  | lflush hd =>
    simp only [HW.step]
    split
    · next l hl =>
      have := pending_set (some (LH.empty w.shared.bounds.length)) hl
      simp only [optCount, LH.empty, C08.absorb_count] at this ⊢
      omega
    · exact h
  | lclear hd =>
    simp only [HW.step]
    split
    · next l hl =>
      have := pending_set (some (LH.empty w.shared.bounds.length)) hl
      simp only [optCount, LH.empty] at this ⊢
      omega
    · exact h
  | lclone hd =>
    simp only [HW.step]
    split
    · simp only [pending_append, optCount, LH.empty]; omega
    · simp only [pending_append, optCount]; omega
    · exact h
  | ldrop hd =>
    simp only [HW.step]
    split
    · next l hl =>
      have := pending_set none hl
      simp only [optCount, C08.absorb_count] at this ⊢
      omega
    · exact h
  | lnew => simp only [HW.step, pending_append, optCount, LH.empty]; omega
  | sobs v => simp only [HW.step, Hist.observe]; omega

end Prom.C12
