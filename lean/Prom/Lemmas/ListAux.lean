/- List facts with no model content: positions under `set` and `++ [x]`, sums under a point update
   (`sum_map_set`), distinct keys (`eq_of_nodup_map`, `nodup_map_concat`, `find?_key_of_nodup`), the fold
   invariant that sees the prefix folded so far (`foldl_prefix_invariant`), and the association list
   `alook l k = (l.find? (·.1 == k)).map (·.2)`. That is the body of `lookupKey`, `cacheFind`, `dimLookup`,
   `lookupMsg`, `VSpec.lookup` and of the lookup in `lookupAllP`: `alook` lemmas are applied to them as they stand. -/
namespace Prom

theorem lt_of_getElem? {α} {l : List α} {i : Nat} {a : α} (h : l[i]? = some a) : i < l.length :=
  (List.getElem?_eq_some_iff.1 h).1

theorem getElem?_set_of_some {α} {l : List α} {t : Nat} {a : α} (ht : l[t]? = some a) (x : α) (u : Nat) :
    (l.set t x)[u]? = if t = u then some x else l[u]? := by
  rw [List.getElem?_set, if_pos (lt_of_getElem? ht)]

theorem forall_set {α} {l : List α} {u : Nat} {a' : α} {P : Nat → α → Prop}
    (h : ∀ t x, t ≠ u → l[t]? = some x → P t x) (h' : P u a') : ∀ t x, (l.set u a')[t]? = some x → P t x := by
  intro t x hx
  rw [List.getElem?_set] at hx
  split at hx
  · next e => subst e; split at hx <;> cases hx; exact h'
  · next e => exact h t x (fun e' => e e'.symm) hx

theorem of_getElem?_concat_eq_some {α} {l : List α} {x y : α} {i : Nat} (h : (l ++ [x])[i]? = some y) :
    l[i]? = some y ∨ (i = l.length ∧ y = x) := by
  rcases Nat.lt_trichotomy i l.length with hlt | rfl | hgt
  · exact .inl (by rwa [List.getElem?_append_left hlt] at h)
  · rw [List.getElem?_concat_length] at h; exact .inr ⟨rfl, (Option.some.inj h).symm⟩
  · rw [List.getElem?_eq_none (by simp; omega)] at h; cases h

theorem getElem?_concat_of_some {α} {l : List α} {x y : α} {i : Nat} (h : l[i]? = some y) :
    (l ++ [x])[i]? = some y := by
  rwa [List.getElem?_append_left (lt_of_getElem? h)]

theorem filterMap_set_split {α β} (f : α → Option β) (l : List α) (i : Nat) (a a' : α) (h : l[i]? = some a) :
    ∃ pre post, l.filterMap f = pre ++ ((f a).toList ++ post) ∧
      (l.set i a').filterMap f = pre ++ ((f a').toList ++ post) := by
  obtain ⟨hi, rfl⟩ := List.getElem?_eq_some_iff.1 h
  have cons : ∀ x r, (x :: r).filterMap f = (f x).toList ++ r.filterMap f := fun x r => by
    rw [List.filterMap_cons]; cases f x <;> rfl
  refine ⟨(l.take i).filterMap f, (l.drop (i + 1)).filterMap f, ?_, ?_⟩
  · rw [← cons, ← List.filterMap_append, ← List.drop_eq_getElem_cons hi, List.take_append_drop]
  · rw [← cons, ← List.filterMap_append, List.set_eq_take_append_cons_drop, if_pos hi]

theorem map_eq_self_of_forall_mem {α} (l : List α) (f : α → α) (h : ∀ x ∈ l, f x = x) : l.map f = l :=
  (List.map_congr_left h).trans (List.map_id l)

theorem sum_map_set {α} (f : α → Nat) {l : List α} {i : Nat} {o : α} (n : α) (h : l[i]? = some o) :
    ((l.set i n).map f).sum + f o = (l.map f).sum + f n := by
  induction l generalizing i with
  | nil => simp at h
  | cons a t ih =>
    cases i with
    | zero => cases h; simp only [List.set_cons_zero, List.map_cons, List.sum_cons]; omega
    | succ i =>
      have := ih (by simpa using h)
      simp only [List.set_cons_succ, List.map_cons, List.sum_cons]
      omega

theorem sum_map_cast {α} (l : List α) (f : α → Nat) :
    (l.map fun a => (f a : Int)).sum = (((l.map f).sum : Nat) : Int) := by
  induction l with
  | nil => rfl
  | cons x r ih => simp only [List.map_cons, List.sum_cons, ih]; omega

theorem sum_range_getD (l : List Nat) (n : Nat) :
    ((List.range n).map fun c => l[c]?.getD 0).sum = (l.take n).sum := by
  induction n with
  | zero => rfl
  | succ n ih =>
    rw [List.range_succ, List.map_append, List.sum_append_nat, ih, List.take_add_one, List.sum_append_nat]
    cases h : l[n]? <;> simp [h]

theorem eq_of_nodup_map {α β} (f : α → β) {l : List α} (h : (l.map f).Nodup) {x y : α}
    (hx : x ∈ l) (hy : y ∈ l) (e : f x = f y) : x = y :=
  -- `f a = f b → a = b` holds between different positions because its premise contradicts `Nodup`
  -- (in either order), and of a member with itself by `rfl`
  have hp := List.pairwise_map.1 h
  List.Pairwise.forall_of_forall_of_flip (R := fun a b => f a = f b → a = b) (fun _ _ _ => rfl)
    (hp.imp fun h e => absurd e h) (hp.imp fun h e => absurd e.symm h) hx hy e

theorem eq_of_nodup_flatMap {α β} (f : α → List β) {l : List α} (h : (l.flatMap f).Nodup) {x y : α}
    (hx : x ∈ l) (hy : y ∈ l) {b : β} (hbx : b ∈ f x) (hby : b ∈ f y) : x = y :=
  have hp := (List.pairwise_flatMap.1 h).2
  List.Pairwise.forall_of_forall_of_flip (R := fun a c => ∀ b, b ∈ f a → b ∈ f c → a = c) (fun _ _ _ _ _ => rfl)
    (hp.imp fun h b h1 h2 => absurd rfl (h b h1 b h2)) (hp.imp fun h b h1 h2 => absurd rfl (h b h2 b h1))
    hx hy b hbx hby

theorem nodup_flatMap_filter {α β} (f : α → List β) (q : α → Bool) {l : List α} (h : (l.flatMap f).Nodup) :
    ((l.filter q).flatMap f).Nodup := by
  rw [List.Nodup, List.pairwise_flatMap] at h ⊢
  exact ⟨fun a ha => h.1 a (List.mem_filter.1 ha).1, h.2.filter q⟩

theorem nodup_map_concat {α κ} {key : α → κ} {l : List α} {a : α} (hn : (l.map key).Nodup)
    (ha : ∀ p ∈ l, key p ≠ key a) : ((l ++ [a]).map key).Nodup := by
  rw [List.map_append, List.nodup_append]
  refine ⟨hn, by simp, fun x hx y hy e => ?_⟩
  obtain ⟨p, hp, rfl⟩ := List.mem_map.1 hx
  exact ha p hp (by simpa [← e] using hy)

theorem find?_key_of_nodup {α κ} [BEq κ] [LawfulBEq κ] (key : α → κ) {l : List α} (hn : (l.map key).Nodup)
    {a : α} (ha : a ∈ l) : l.find? (key · == key a) = some a := by
  cases hf : l.find? (key · == key a) with
  | none => simpa using List.find?_eq_none.1 hf a ha
  | some b => rw [eq_of_nodup_map key hn (List.mem_of_find?_eq_some hf) ha (by simpa using List.find?_some hf)]

theorem mapM_option_congr {α β} {f g : α → Option β} {l : List α} (h : ∀ a ∈ l, f a = g a) :
    l.mapM f = l.mapM g := by
  induction l with
  | nil => rfl
  | cons a t ih =>
    simp only [List.mapM_cons]
    rw [h a (by simp), ih (fun n hn => h n (by simp [hn]))]

theorem mapM_id_eq_some_iff {α} {l : List (Option α)} {vs : List α} : l.mapM id = some vs ↔ l = vs.map some := by
  induction l generalizing vs with
  | nil => cases vs <;> simp
  | cons o t ih =>
    cases o with
    | none => cases vs <;> simp
    | some a => cases hm : t.mapM id <;> cases vs <;> simp [hm, ← ih]

theorem find?_map_some {α β} {l : List α} {p : α → Bool} {g : α → β} {b : β}
    (h : (l.find? p).map g = some b) : ∃ a ∈ l, p a = true ∧ g a = b := by
  obtain ⟨a, ha, rfl⟩ := Option.map_eq_some_iff.1 h
  exact ⟨a, List.mem_of_find?_eq_some ha, List.find?_some ha, rfl⟩

theorem foldl_prefix_invariant {α β : Type} (step : β → α → β) (P : List α → β → Prop)
    (hstep : ∀ pre a b, P pre b → P (pre ++ [a]) (step b a)) :
    ∀ (rest pre : List α) (b : β), P pre b → P (pre ++ rest) (rest.foldl step b) := by
  intro rest
  induction rest with
  | nil => intro pre b h; simpa using h
  | cons a t ih =>
    intro pre b h
    have := ih (pre ++ [a]) (step b a) (hstep pre a b h)
    simpa [List.append_assoc] using this

section alook
variable {κ β : Type} [BEq κ]

def alook (l : List (κ × β)) (k : κ) : Option β := (l.find? (·.1 == k)).map (·.2)

theorem alook_cons (p : κ × β) (t : List (κ × β)) (k : κ) :
    alook (p :: t) k = if p.1 == k then some p.2 else alook t k := by
  unfold alook; rw [List.find?_cons]
  cases p.1 == k <;> rfl

theorem alook_append (l r : List (κ × β)) (k : κ) : alook (l ++ r) k = (alook l k).or (alook r k) := by
  unfold alook; rw [List.find?_append]; cases l.find? (·.1 == k) <;> rfl

variable [LawfulBEq κ]

theorem alook_eq_none {l : List (κ × β)} {k : κ} : alook l k = none ↔ ∀ p ∈ l, p.1 ≠ k := by
  simp [alook, List.find?_eq_none]

theorem alook_isSome {l : List (κ × β)} {k : κ} : (alook l k).isSome = true ↔ ∃ p ∈ l, p.1 = k := by
  simp [alook, List.find?_isSome]

theorem alook_mem {l : List (κ × β)} {k : κ} {b : β} (h : alook l k = some b) : (k, b) ∈ l := by
  obtain ⟨⟨k', b'⟩, hm, hk, rfl⟩ := find?_map_some h
  obtain rfl : k' = k := eq_of_beq hk
  exact hm

/-- with distinct keys the entry found is the only one of its key: dropping "the entries of key `k`", or
    overwriting them, touches it alone -/
theorem alook_split {l : List (κ × β)} (hn : (l.map (·.1)).Nodup) {k : κ} {b : β} (h : alook l k = some b) :
    ∃ a r, l = a ++ (k, b) :: r ∧ l.filter (·.1 != k) = a ++ r ∧
      ∀ x, (l.map fun e => if e.1 == k then x else e) = a ++ x :: r := by
  obtain ⟨⟨k', b'⟩, hf, rfl⟩ := Option.map_eq_some_iff.1 h
  obtain ⟨hk, a, r, rfl, ha⟩ := List.find?_eq_some_iff_append.1 hf
  obtain rfl : k' = k := eq_of_beq hk
  have hn : (a.map (·.1) ++ k' :: r.map (·.1)).Nodup := by simpa using hn
  have ha : ∀ p ∈ a, p.1 ≠ k' := fun p hp => by simpa using ha p hp
  have hr : ∀ p ∈ r, p.1 ≠ k' := fun p hp e =>
    (List.nodup_cons.1 (List.nodup_append.1 hn).2.1).1 (List.mem_map.2 ⟨p, hp, e⟩)
  have keep : ∀ t : List (κ × β), (∀ p ∈ t, p.1 ≠ k') → t.filter (·.1 != k') = t ∧
      ∀ x, (t.map fun e => if e.1 == k' then x else e) = t := fun t ht =>
    ⟨List.filter_eq_self.2 fun p hp => by simpa using ht p hp, fun x => map_eq_self_of_forall_mem _ _ fun p hp => by simp [ht p hp]⟩
  refine ⟨a, r, rfl, ?_, fun x => ?_⟩
  · simp [List.filter_append, (keep a ha).1, (keep r hr).1]
  · simp [(keep a ha).2, (keep r hr).2]

theorem alook_of_mem {l : List (κ × β)} (hn : (l.map (·.1)).Nodup) {k : κ} {b : β} (h : (k, b) ∈ l) :
    alook l k = some b := by
  rw [alook, find?_key_of_nodup (·.1) hn h]; rfl

theorem alook_perm {l l' : List (κ × β)} (hp : l.Perm l') (hn : (l.map (·.1)).Nodup) (k : κ) :
    alook l k = alook l' k := by
  cases h : alook l k with
  | some b => exact (alook_of_mem ((hp.map _).nodup_iff.1 hn) (hp.mem_iff.1 (alook_mem h))).symm
  | none => exact (alook_eq_none.2 fun p hp' => alook_eq_none.1 h p (hp.mem_iff.2 hp')).symm

/-- insert-or-replace as `dimInsert` (Model/Registry) does it: drop the entries of key `k`, append the new one -/
theorem alook_upsert [DecidableEq κ] (l : List (κ × β)) (k n : κ) (b : β) :
    alook (l.filter (·.1 != k) ++ [(k, b)]) n = if k = n then some b else alook l n := by
  rw [alook_append, alook_cons]
  by_cases e : k = n
  · rw [alook_eq_none.2 fun q hq => by simpa [e] using (List.mem_filter.1 hq).2]
    simp [e]
  · have keep : alook (l.filter (·.1 != k)) n = alook l n := by
      unfold alook
      rw [List.find?_filter]
      congr 2; funext p
      by_cases hp : p.1 = n <;> simp [hp, Ne.symm e]
    rw [keep, if_neg e, if_neg (by simpa using e)]
    cases alook l n <;> rfl

end alook
end Prom
