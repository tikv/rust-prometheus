import Prom.Lemmas.Handoff
import Prom.Lemmas.HistAccept
import Prom.Lemmas.Replay
/-
The machine-side facts that make `Handoff.handoff_hb` applicable to the traces the histogram machine accepts: an
accepted event on a shard's count cell is an observer's publish, a collector's spin or its `addCount` (each
`fetch_add` possibly written as a load + compare-exchange loop: `FaEv`), never a store or a swap, so every
modification of a count cell is an RMW; hence every release write to a count cell synchronizes with every later
successful spin on it (`memTrace_cnt_rmw` is the hypothesis of `handoff_hb` for it).
-/
namespace Prom.HM
open Prom.Conc Hp Prom.Handoff

/-- the events a `fetch_add` site that needs the ordering `ord` accepts: THE step - the `fetch_add`, or the
    successful compare-exchange of the loop it is written as, with an ordering at least `ord` -, or a stutter
    of that loop - a load, a failed compare-exchange -/
def FaEv (e : Ev) (ord : String) : Prop :=
  ((e.k = "A" ∨ (e.k = "C" ∧ e.ok = true)) ∧ ordGe e.ord ord = true) ∨ e.k = "L" ∨ (e.k = "C" ∧ e.ok = false)

theorem fetchAdd_okAll_ev {Q : Prop} {e : Ev} {c : Hp.St} {pc : Pc} {loc : Loc} {ord : String} {a x : UInt64}
    {ok : Bool} {msg : String} {onOk : Res} (hq : parseLoc e.loc = loc → FaEv e ord → Q) :
    OkAll (fun _ => Q) (fetchAdd e c pc loc ord a x ok msg onOk) := by
  intro _ h
  rcases fetchAdd_cases h with ⟨_, hl, hk⟩ | ⟨_, _, hl, ho, _, hk⟩
  · exact hq hl (.inr hk)
  · exact hq hl (.inl ⟨hk, ho⟩)

theorem FaEv.kind {e : Ev} {ord : String} (h : FaEv e ord) :
    (e.k = "A" ∨ e.k = "C" ∨ e.k = "L") ∧ (ofEv e).rd = true := by
  rcases h with ⟨hk | ⟨hk, _⟩, _⟩ | hk | ⟨hk, _⟩
  · exact ⟨.inl hk, (ofEv_rmw_of_kind (.inl hk)).1⟩
  · exact ⟨.inr (.inl hk), (ofEv_rmw_of_kind (.inr hk)).1⟩
  · exact ⟨.inr (.inr hk), (ofEv_read_only (.inl hk)).1⟩
  · exact ⟨.inr (.inl hk), (ofEv_rmw_of_kind (.inr hk)).1⟩

theorem stepLoc_cnt {k : Nat} {cold b : Bool} {st : CStep} (h : stepLoc k cold st = .cnt b) :
    st = CStep.addCount ∧ b = !cold := by
  cases st with
  | swap cell => simp only [stepLoc] at h; split at h <;> cases h
  | addHot cell => simp only [stepLoc] at h; split at h <;> cases h
  | addCount => simp only [stepLoc] at h; cases h; exact ⟨rfl, rfl⟩
  | unlock => simp only [stepLoc] at h; cases h

theorem colStep_cnt {k : Nat} {c : Hp.St} {cuts : Cuts} {e : Ev} {pc : Pc} {cold : Bool} {ov : Nat}
    {todo : List CStep} {taken : Cells} {S : List Obs} {r : Res × Cuts} {b : Bool}
    (h : colStep k c cuts e pc cold ov todo taken S = .ok r) (hl : parseLoc e.loc = .cnt b) :
    b = !cold ∧ FaEv e "Relaxed" := by
  revert r h
  show OkAll (fun _ => _) _
  unfold colStep
  -- the step the location selects can only be `addCount`
  cases hsp : splitFirst (fun st => stepLoc k cold st == parseLoc e.loc) todo with
  | some t =>
    obtain ⟨l1, st, l2⟩ := t
    obtain ⟨rfl, rfl⟩ := stepLoc_cnt (b := b) (by rw [← hl]; simpa using (splitFirst_spec hsp).2.1)
    exact okAll_plainR.2 (fetchAdd_okAll_ev fun _ hfa => ⟨rfl, hfa⟩)
  | none =>
    -- the `fetch_add(0)` of a silently taken `addHot` is on a bucket
    dsimp only
    split
    · exact okAll_plainR.2 (fetchAdd_okAll_ev fun hloc _ => by rw [hl] at hloc; cases hloc)
    · exact okAll_error.2 trivial

/-- the arm `colSpin` analysed once; `evStep_spin_acquire` (clause (2) of `C02.publish_is_release_spin_is_acquire`),
    `evStep_spin_exit` (clause (2')) and the spin case of `evStep_cnt_cases` are read off it -/
theorem evStep_colSpin {k : Nat} {c : Hp.St} {cuts : Cuts} {e : Ev} {pc : Pc} {r : Res × Cuts}
    {cold : Bool} {ov : Nat} {S : List Obs} (ht : pc.task = some (.colSpin cold ov S))
    (h : evStep k c cuts e pc = .ok r) :
    parseLoc e.loc = .cnt cold ∧
    ((e.k = "L" ∧ r = ((c, pc, none), cuts)) ∨
     (e.k = "C" ∧ ordGe e.ord "Acquire" = true ∧
        ((e.ok = true ∧ (c.sh cold).count = ov) ∨ (e.ok = false ∧ r = ((c, pc, none), cuts))))) := by
  revert r h
  show OkAll _ _
  unfold evStep evStep1
  simp only [ht, okAll_ite, okAll_plainR, okAll_guard, okAll_ok, Bool.and_eq_true, beq_iff_eq, decide_eq_true_eq,
    Bool.not_eq_true]
  -- the load of the wait loop; the compare-exchange: succeeded (the count is `ov`) or failed
  exact ⟨fun hk ⟨⟨hl, _⟩, _⟩ => ⟨hl, .inl ⟨hk, trivial⟩⟩, fun _ ⟨⟨⟨⟨hk, hl⟩, ho⟩, _⟩, _⟩ =>
    ⟨fun hok hc => ⟨hl, .inr ⟨hk, ho, .inl ⟨hok, hc⟩⟩⟩,
     fun hok _ => ⟨hl, .inr ⟨hk, ho, .inr ⟨hok, trivial⟩⟩⟩⟩⟩

/-- an accepted event on the count of shard `b` is an observer's publish on `b`, the spin of a collector whose cold
    shard is `b`, or the `addCount` of a collector whose hot shard is `b` -/
theorem evStep_cnt_cases {k : Nat} {c : Hp.St} {cuts : Cuts} {e : Ev} {pc : Pc} {r : Res × Cuts} {b : Bool}
    (h : evStep k c cuts e pc = .ok r) (hl : parseLoc e.loc = .cnt b) :
    (∃ o, pc.task = some (.obsRun o b []) ∧ FaEv e "Release") ∨
    (∃ ov S, pc.task = some (.colSpin b ov S) ∧ ((e.k = "C" ∧ ordGe e.ord "Acquire" = true) ∨ e.k = "L")) ∨
    (∃ ov todo taken S, pc.task = some (.colMove (!b) ov todo taken S) ∧ FaEv e "Relaxed") := by
  revert r
  show OkAll (fun _ => _) (evStep k c cuts e pc)
  -- a `fetch_add` site on another location accepts no event on a count
  have fa : ∀ {Q : Prop} {loc ord a x ok msg onOk}, loc ≠ .cnt b →
      OkAll (fun _ => Q) (plainR cuts (fetchAdd e c pc loc ord a x ok msg onOk)) :=
    fun hne => okAll_plainR.2 (fetchAdd_okAll_ev fun h1 _ => absurd (h1 ▸ hl) hne)
  unfold evStep evStep1
  cases ht : pc.task with
  | none =>
    -- a guard that checks the event against another location: with `hl` it is closed by computation
    simp only [hl, okAll_plainR, okAll_guard, okAll_ok, Bool.and_eq_true, beq_iff_eq, reduceCtorEq, and_false, false_and,
      false_implies]
  | some t =>
    cases t with
    | obsStart o => exact fa nofun
    | obsRun o b' l =>
      cases l with
      | nil =>
        refine okAll_plainR.2 (fetchAdd_okAll_ev fun hloc hfa => ?_)
        obtain rfl : b = b' := by rw [hl] at hloc; cases hloc; rfl
        exact .inl ⟨o, rfl, hfa⟩
      | cons p l =>
        dsimp only [obsEntry]
        split
        · exact fa nofun
        · exact okAll_plainR.2 fun _ h => absurd ((casLoop_cases h).1 ▸ hl) nofun
    | colWant =>
      simp only [hl, okAll_plainR, okAll_guard, okAll_ok, Bool.and_eq_true, beq_iff_eq, reduceCtorEq, and_false, false_and,
        false_implies]
    | colLocked =>
      simp only [hl, okAll_ite, okAll_plainR, okAll_guard, okAll_ok, Bool.and_eq_true, beq_iff_eq, reduceCtorEq, and_false,
        false_and, false_implies, implies_true, true_and]
      exact fun _ => okAll_plainR.1 (fa (loc := .sc) nofun)
    | colSpin cold ov S =>
      intro r h
      obtain ⟨hloc, hk⟩ := evStep_colSpin ht (r := r) (by unfold evStep evStep1; rw [ht]; exact h)
      obtain rfl : b = cold := by rw [hl] at hloc; cases hloc; rfl
      exact .inr (.inl ⟨ov, S, rfl, hk.elim (fun h => .inr h.1) (fun h => .inl ⟨h.1, h.2.1⟩)⟩)
    | colMove cold ov todo taken S =>
      intro r h
      obtain ⟨rfl, hfa⟩ := colStep_cnt h hl
      exact .inr (.inr ⟨ov, todo, taken, S, by simp, hfa⟩)

/-- `evStep_cnt_cases` with the three cases forgotten: the statement of `C02.count_cells_only_rmw`, and what
    `memTrace_cnt_rmw` needs -/
theorem evStep_cnt_kind {k : Nat} {c : Hp.St} {cuts : Cuts} {e : Ev} {pc : Pc} {r : Res × Cuts} {b : Bool}
    (h : evStep k c cuts e pc = .ok r) (hl : parseLoc e.loc = .cnt b) :
    (e.k = "A" ∨ e.k = "C" ∨ e.k = "L") ∧
    (∀ cold ov S, pc.task = some (.colSpin cold ov S) → (e.k = "C" ∧ ordGe e.ord "Acquire" = true) ∨ e.k = "L") ∧
    (ofEv e).rd = true := by
  rcases evStep_cnt_cases h hl with ⟨_, ht, hfa⟩ | ⟨_, _, ht, hk⟩ | ⟨_, _, _, _, ht, hfa⟩
  · exact ⟨hfa.kind.1, fun _ _ _ ht' => (by rw [ht] at ht'; cases ht'), hfa.kind.2⟩
  · rcases hk with ⟨hk, ho⟩ | hk
    · exact ⟨.inr (.inl hk), fun _ _ _ _ => .inl ⟨hk, ho⟩, (ofEv_rmw_of_kind (.inr hk)).1⟩
    · exact ⟨.inr (.inr hk), fun _ _ _ _ => .inr hk, (ofEv_read_only (.inl hk)).1⟩
  · exact ⟨hfa.kind.1, fun _ _ _ ht' => (by rw [ht] at ht'; cases ht'), hfa.kind.2⟩

/-- clause (1) of `C02.publish_is_release_spin_is_acquire`: the publish arm is a `fetch_add` site on the count -/
theorem evStep_publish_release {k : Nat} {c : Hp.St} {cuts : Cuts} {e : Ev} {pc : Pc} {r : Res × Cuts}
    {o : Obs} {b : Bool} (ht : pc.task = some (.obsRun o b []))
    (h : evStep k c cuts e pc = .ok r) :
    parseLoc e.loc = .cnt b ∧ (ofEv e).rd = true ∧
    (((e.k = "A" ∨ (e.k = "C" ∧ e.ok = true)) ∧ ordGe e.ord "Release" = true ∧
        (ofEv e).wr = true ∧ (ofEv e).rel = true ∧ r.1.2.2 = some "") ∨
     ((e.k = "L" ∨ (e.k = "C" ∧ e.ok = false)) ∧ (ofEv e).wr = false ∧ r.1.1 = c ∧ r.1.2.2 = none)) := by
  obtain ⟨r1, r2⟩ := r
  unfold evStep evStep1 at h
  simp only [ht] at h
  rcases fetchAdd_cases (plainR_ok.1 h).1 with ⟨⟨ic, f, hr⟩, hl, hk⟩ | ⟨hr, _, hl, ho, _, hk⟩
  · exact ⟨hl, (ofEv_read_only hk).1, .inr ⟨hk, (ofEv_read_only hk).2, by rw [hr], by rw [hr]⟩⟩
  · have hrw := ofEv_rmw_of_kind (hk.imp id (·.1))
    exact ⟨hl, hrw.1, .inl ⟨hk, ho, hrw.2.mpr (hk.imp id (·.2)), ofEv_rel_of_ordGe ho, by rw [hr]; rfl⟩⟩

/-- clause (2) of `C02.publish_is_release_spin_is_acquire` -/
theorem evStep_spin_acquire {k : Nat} {c : Hp.St} {cuts : Cuts} {e : Ev} {pc : Pc} {r : Res × Cuts}
    {cold : Bool} {ov : Nat} {S : List Obs} (ht : pc.task = some (.colSpin cold ov S))
    (h : evStep k c cuts e pc = .ok r) :
    parseLoc e.loc = .cnt cold ∧ (ofEv e).rd = true ∧
    ((e.k = "C" ∧ ordGe e.ord "Acquire" = true ∧
        (e.ok = true → (ofEv e).wr = true ∧ (ofEv e).acq = true)) ∨
     (e.k = "L" ∧ (ofEv e).wr = false ∧ r.1.1 = c ∧ r.1.2.1 = pc ∧ r.1.2.2 = none)) := by
  obtain ⟨hl, ⟨hk, rfl⟩ | ⟨hk, ho, _⟩⟩ := evStep_colSpin ht h
  · exact ⟨hl, (ofEv_read_only (.inl hk)).1, .inr ⟨hk, (ofEv_read_only (.inl hk)).2, rfl, rfl, rfl⟩⟩
  · exact ⟨hl, (ofEv_rmw_of_kind (.inr hk)).1, .inl ⟨hk, ho,
      fun hok => ⟨(ofEv_rmw_of_kind (.inr hk)).2.mpr (.inr hok), ofEv_acq_of_ordGe ho (fun _ => hok)⟩⟩⟩

/-- clause (2') of `C02.publish_is_release_spin_is_acquire`: of the cases of `evStep_colSpin` only the successful
    exchange changes the call's task -/
theorem evStep_spin_exit {k : Nat} {c : Hp.St} {cuts : Cuts} {e : Ev} {pc : Pc} {r : Res × Cuts}
    {cold : Bool} {ov : Nat} {S : List Obs} (ht : pc.task = some (.colSpin cold ov S))
    (h : evStep k c cuts e pc = .ok r) (hx : r.1.2.1.task ≠ pc.task) :
    e.k = "C" ∧ e.ok = true ∧ ordGe e.ord "Acquire" = true ∧ (ofEv e).wr = true ∧ (ofEv e).acq = true ∧
      (c.sh cold).count = ov := by
  obtain ⟨_, ⟨_, rfl⟩ | ⟨hk, ho, ⟨hok, hc⟩ | ⟨_, rfl⟩⟩⟩ := evStep_colSpin ht h
  · exact absurd rfl hx
  · exact ⟨hk, hok, ho, (ofEv_rmw_of_kind (.inr hk)).2.mpr (.inr hok), ofEv_acq_of_ordGe ho (fun _ => hok), hc⟩
  · exact absurd rfl hx

/-- the atomic / lock events of a trace, in order -/
def evsOf (tr : List Item) : List Ev := tr.filterMap fun it => match it with | .ev e => some e | _ => none

def memTrace (tr : List Item) : List MEv := (evsOf tr).map ofEv

theorem item_ev_accepts {s s' : St} {e : Ev} (h : item s (.ev e) = .ok s') :
    ∃ pc r, evStep s.bounds.length s.core s.cuts e pc = .ok r := by
  simp only [item] at h
  split at h
  · cases h
  · split at h
    · cases h
    · next pc _ =>
      split at h
      · cases h
      · next hev => exact ⟨pc, _, hev⟩

/-- the hypothesis of `Handoff.handoff_hb` on a count cell, for the memory-event trace of a replayed trace -/
theorem memTrace_cnt_rmw {tr : List Item} {s s' : St} {n : Nat} (h : runItems item s tr n = .ok s')
    {c : String} {b : Bool} (hc : parseLoc c = .cnt b) :
    ∀ (k : Nat) (m : MEv), (memTrace tr)[k]? = some m → m.loc = c → m.wr = true → m.rd = true := by
  intro k m hm hl _
  simp only [memTrace, List.getElem?_map, Option.map_eq_some_iff] at hm
  obtain ⟨e, he, rfl⟩ := hm
  obtain ⟨it, hit, hite⟩ := List.mem_filterMap.mp (List.mem_of_getElem? he)
  obtain rfl : it = .ev e := by
    cases it with
    | ev e0 => cases hite; rfl
    | _ => cases hite
  obtain ⟨s0, s1, hs⟩ := RT.runItems_accepts h _ hit
  obtain ⟨pc, r, hev⟩ := item_ev_accepts hs
  exact (evStep_cnt_kind hev (b := b) (by rw [show e.loc = c from hl]; exact hc)).2.2

end Prom.HM
