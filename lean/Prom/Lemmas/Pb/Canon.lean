import Prom.Lemmas.Pb.Roundtrip
import Prom.Gen.PbTables
/-
The messages the library builds (`familyFields`) are already in the write order of the regenerated
writer table at every level, so the reader returns them unchanged (`canon … = id` on them: `canon_family`).
These lemmas are about `Gen.writerTable`: a reordering of the writes in proto_model.rs breaks them.
-/
namespace Prom.C13
open Prom.Pb

/-- the regenerated writer table, for short -/
abbrev T := Prom.Gen.writerTable

theorem lkLabel : lookupMsg T "LabelPair" = some [⟨"name", 1, .str, false, .tagLenBytes⟩, ⟨"value", 2, .str, false, .tagLenBytes⟩] := by decide +kernel
theorem lkGauge : lookupMsg T "Gauge" = some [⟨"value", 1, .double, false, .tagFixed64⟩] := by decide +kernel
theorem lkCounter : lookupMsg T "Counter" = some [⟨"value", 1, .double, false, .tagFixed64⟩] := by decide +kernel
theorem lkQuantile : lookupMsg T "Quantile" = some [⟨"quantile", 1, .double, false, .tagFixed64⟩, ⟨"value", 2, .double, false, .tagFixed64⟩] := by decide +kernel
theorem lkSummary : lookupMsg T "Summary" = some [⟨"sample_count", 1, .uint64, false, .tagVarint⟩, ⟨"sample_sum", 2, .double, false, .tagFixed64⟩, ⟨"quantile", 3, (.msg "Quantile"), true, .tagLenBytes⟩] := by decide +kernel
theorem lkBucket : lookupMsg T "Bucket" = some [⟨"cumulative_count", 1, .uint64, false, .tagVarint⟩, ⟨"upper_bound", 2, .double, false, .tagFixed64⟩] := by decide +kernel
theorem lkHist : lookupMsg T "Histogram" = some [⟨"sample_count", 1, .uint64, false, .tagVarint⟩, ⟨"sample_sum", 2, .double, false, .tagFixed64⟩, ⟨"bucket", 3, (.msg "Bucket"), true, .tagLenBytes⟩] := by decide +kernel
theorem lkMetric : lookupMsg T "Metric" = some [⟨"label", 1, (.msg "LabelPair"), true, .tagLenBytes⟩, ⟨"gauge", 2, (.msg "Gauge"), false, .tagLenBytes⟩,
    ⟨"counter", 3, (.msg "Counter"), false, .tagLenBytes⟩, ⟨"summary", 4, (.msg "Summary"), false, .tagLenBytes⟩,
    ⟨"untyped", 5, (.msg "Untyped"), false, .tagLenBytes⟩, ⟨"histogram", 7, (.msg "Histogram"), false, .tagLenBytes⟩,
    ⟨"timestamp_ms", 6, .int64, false, .tagVarint⟩] := by decide +kernel
theorem lkFamily : lookupMsg T "MetricFamily" = some [⟨"name", 1, .str, false, .tagLenBytes⟩, ⟨"help", 2, .str, false, .tagLenBytes⟩,
    ⟨"type", 3, .enum, false, .tagVarint⟩, ⟨"metric", 4, (.msg "Metric"), true, .tagLenBytes⟩] := by decide +kernel

/-- the fields of the `Metric` message of a sample: the body of `Pb.sampleMsg` under a name (`sampleMsg_eq`), so that
    lemmas can speak of the field list itself -/
def sampleFields (s : Sample) : Fields :=
  s.labels.map (fun p => ("label", labelMsg p)) ++ valFields s.val ++
        (if s.ts != 0 then [("timestamp_ms", .int (i64Bits s.ts))] else [])

theorem sampleMsg_eq (s : Sample) : sampleMsg s = .msg (sampleFields s) := rfl

theorem getAll_sampleFields (s : Sample) (n : String) :
    getAll (sampleFields s) n = (if "label" == n then s.labels.map labelMsg else []) ++ getAll (valFields s.val) n ++
      (if s.ts != 0 then (if "timestamp_ms" == n then [.int (i64Bits s.ts)] else []) else []) := by
  simp only [sampleFields, getAll_append, getAll_map, getAll_ite, getAll_cons, getAll_nil, List.append_nil]

theorem getAll_valFields_outer (v : MVal) : getAll (valFields v) "label" = [] ∧ getAll (valFields v) "timestamp_ms" = [] := by
  cases v <;> simp [valFields, getAll_cons]

-- depths: `canonV` spends one unit per level of nesting it opens: a LabelPair holds scalars only (`d + 1`), a Metric
-- holds a Histogram that holds Buckets (`d + 3`), `canon` of a MetricFamily applies `canonV` to its Metrics at its own depth (`d + 3`; the encoder uses 8)
theorem canon_label (d : Nat) (wf : WField) (h : wf.kind = .msg "LabelPair") (p : LabelPair) :
    canonV T (d + 1) wf (labelMsg p) = labelMsg p := by
  simp [labelMsg, canonV_msg T d h, canon_eq lkLabel, getAll_cons, canonV_str]

theorem canon_sample (d : Nat) (wf : WField) (h : wf.kind = .msg "Metric") (s : Sample) :
    canonV T (d + 3) wf (sampleMsg s) = sampleMsg s := by
  rw [sampleMsg_eq, canonV_msg T _ h, canon_eq lkMetric]
  -- first what does not depend on the kind of value: which of the seven fields the label block and the timestamp fall under
  simp only [List.flatMap_cons, List.flatMap_nil, getAll_sampleFields, getAll_valFields_outer, String.reduceBEq, ↓reduceIte,
    Bool.false_eq_true, List.append_nil, List.nil_append, ite_self]
  unfold sampleFields
  cases s.val <;> simp [valFields, getAll_cons, getAll_map, canon_label, canonV_double, canonV_uint, canonV_int, Function.comp_def,
    apply_ite (List.map _), canonV_mk, canon_eq lkGauge, canon_eq lkCounter, canon_eq lkSummary, canon_eq lkQuantile, canon_eq lkHist, canon_eq lkBucket]

/-- the value slot alone: a sample without labels or timestamp -/
theorem canon_val (d : Nat) (v : MVal) :
    (emitOrder [⟨"label", 1, (.msg "LabelPair"), true, .tagLenBytes⟩, ⟨"gauge", 2, (.msg "Gauge"), false, .tagLenBytes⟩,
      ⟨"counter", 3, (.msg "Counter"), false, .tagLenBytes⟩, ⟨"summary", 4, (.msg "Summary"), false, .tagLenBytes⟩,
      ⟨"untyped", 5, (.msg "Untyped"), false, .tagLenBytes⟩, ⟨"histogram", 7, (.msg "Histogram"), false, .tagLenBytes⟩,
      ⟨"timestamp_ms", 6, .int64, false, .tagVarint⟩] (valFields v)).map (fun p => (p.1.name, canonV T (d + 2) p.1 p.2)) = valFields v := by
  have := canon_sample d ⟨"metric", 4, .msg "Metric", true, .tagLenBytes⟩ rfl ⟨[], v, 0⟩
  simpa [sampleMsg, canonV_mk, canon, lkMetric] using this

theorem canon_family (d : Nat) (f : Family) : canon T (d + 3) "MetricFamily" (familyFields f) = familyFields f := by
  simp [canon_eq lkFamily, familyFields, getAll_cons, getAll_map, canonV_str, canonV_enum, canon_sample, Function.comp_def]

end Prom.C13
