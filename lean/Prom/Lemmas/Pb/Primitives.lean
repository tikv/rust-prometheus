import Prom.Model.PbDecode
/- The two wire primitives read back what was written: base-128 varints (any fuel) and the 8
   little-endian bytes of a fixed64 (`varint_rt`, `fixed64_rt`). -/
namespace Prom.C13
open Prom.Pb

theorem toUInt8_toNat (n : Nat) (h : n < 256) : n.toUInt8.toNat = n := UInt8.toNat_ofNat_of_lt' h

theorem toUInt8_lt_iff (n : Nat) (h : n < 256) : n.toUInt8 < 128 ↔ n < 128 := UInt8.ofNat_lt_iff h

theorem readVarint_last (f n : Nat) (rest : List UInt8) (hn : n < 128) :
    readVarint (f + 1) (n.toUInt8 :: rest) = some (n, rest) := by
  rw [readVarint, if_pos ((toUInt8_lt_iff n (by omega)).2 hn), toUInt8_toNat n (by omega)]

theorem varint_roundtrip_fuel (f n : Nat) (rest : List UInt8) (h : n < 128 ^ (f + 1)) :
    readVarint (f + 1) (varintFuel (f + 1) n ++ rest) = some (n, rest) := by
  induction f generalizing n with
  | zero =>
    rw [varintFuel, if_pos h]
    exact readVarint_last 0 n rest h
  | succ f ih =>
    rw [varintFuel]
    split
    · exact readVarint_last _ n rest ‹_›
    · -- a continuation byte carries the low seven bits; the quotient follows with one byte less to go
      have hdiv : n / 128 < 128 ^ (f + 1) := Nat.div_lt_of_lt_mul (by rwa [Nat.pow_succ, Nat.mul_comm] at h)
      have hb : n % 128 + 128 < 256 := by omega
      rw [List.cons_append, readVarint, if_neg (fun hlt => by have := (toUInt8_lt_iff _ hb).1 hlt; omega), ih _ hdiv,
        toUInt8_toNat _ hb, Nat.add_sub_cancel]
      show some (n % 128 + 128 * (n / 128), rest) = _
      rw [Nat.mod_add_div]

theorem varint_rt (n : Nat) (rest : List UInt8) (h : n < 2 ^ 64) : readVarint 10 (varint n ++ rest) = some (n, rest) :=
  varint_roundtrip_fuel 9 n rest (Nat.lt_of_lt_of_le h (by decide))

theorem littleEndian_digit_step (m k : Nat) : m / k % 256 + 256 * (m / (k * 256)) = m / k := by
  rw [← Nat.div_div_eq_div_mul]; exact Nat.mod_add_div _ _

theorem fixed64_rt (b : UInt64) (rest : List UInt8) : readFixed64 (fixed64 b ++ rest) = some (b, rest) := by
  have byte (m : Nat) : (m % 256).toUInt8.toNat = m % 256 := toUInt8_toNat _ (Nat.mod_lt _ (by decide))
  have h7 : b.toNat / 72057594037927936 % 256 = b.toNat / 72057594037927936 :=
    Nat.mod_eq_of_lt (Nat.div_lt_of_lt_mul b.toNat_lt)
  have h0 := Nat.mod_add_div b.toNat 256
  have h1 := littleEndian_digit_step b.toNat 256
  have h2 := littleEndian_digit_step b.toNat 65536
  have h3 := littleEndian_digit_step b.toNat 16777216
  have h4 := littleEndian_digit_step b.toNat 4294967296
  have h5 := littleEndian_digit_step b.toNat 1099511627776
  have h6 := littleEndian_digit_step b.toNat 281474976710656
  simp only [fixed64, List.cons_append, List.nil_append, readFixed64, byte]
  -- the reader's Horner sum folds up from the top byte: each step puts one base-256 digit back
  rw [h7, h6, h5, h4, h3, h2, h1, h0]
  simp only [Nat.toUInt64, UInt64.ofNat_toNat]

end Prom.C13
