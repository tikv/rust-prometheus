import Prom.Lemmas.Pb.Primitives
import Prom.Lemmas.Pb.Fields
import Prom.Lemmas.ListAux
/-
The generic wire round trip (C13): for any writer table and any schema that agree, whatever the
table-driven writer produces for a message of any shape and nesting is read back by the independent
schema-driven reader as the same fields, in write order (`canon`). Entry points: `agrees_of_compatible`, `field_rt`
with `msg_rt` (one message), `stream_rt` (the stream of families).
-/
namespace Prom.C13
open Prom.Pb

/-- a written field of kind `w` may be declared as `s`: the same kind (any two enums: both travel as varints), for
    sub-messages the same message name -/
def kindCompat : FKind → FKind → Bool
  | .str, .str | .double, .double | .uint64, .uint64 | .int64, .int64 => true
  | .enum _, .enum _ => true
  | .msg a, .msg b => a == b
  | _, _ => false

/-- the size rule the generated `compute_size` uses for the field is the one of its wire kind -/
def sizeOk (w : WField) : Bool :=
  match w.kind, w.size with
  | .str, .tagLenBytes | .msg _, .tagLenBytes | .double, .tagFixed64 => true
  | .uint64, .tagVarint | .int64, .tagVarint | .enum _, .tagVarint => true
  | _, _ => false

/-- every message the code writes is declared; every written field is declared with the same
    name, number, repetition and a compatible type; every declared field is written; field
    numbers are pairwise distinct (on both sides) and within protobuf's range 1 ‥ 2^29-1; the size rule of
    `compute_size` matches the wire kind. This is the Bool that is decided for the regenerated tables
    (`C13.compatible_generated`); the proofs use what follows from it, `Agrees` (`agrees_of_compatible`) -/
def Compatible (wt : List (String × List WField)) (sch : List (String × List SField)) : Bool :=
  wt.length == sch.length &&
  wt.all fun (name, wfs) =>
    match lookupMsg sch name with
    | none => false
    | some sfs =>
      wfs.length == sfs.length &&
      (wfs.map (·.num)).Nodup && (sfs.map (·.num)).Nodup &&
      wfs.all (fun w => sizeOk w && decide (0 < w.num) && decide (w.num < 536870912) && sfs.any fun s => s.name == w.name && s.num == w.num && s.repeated == w.repeated && kindCompat w.kind s.kind) &&
      sfs.all (fun s => wfs.any fun w => s.name == w.name && s.num == w.num)

/-- what the reader needs of one written field: its number is in range (so the tag varint fits), looking that number up
    in the schema finds a field of the same name and a compatible kind -/
def FieldAgrees (sfs : List SField) (wf : WField) : Prop :=
  wf.num < 536870912 ∧ ∃ sf, sfs.find? (·.num == wf.num) = some sf ∧ sf.name = wf.name ∧ kindCompat wf.kind sf.kind = true

/-- the Prop the round trip is proved from: every message of the writer table is declared, each of its fields
    `FieldAgrees` with the declaration; a consequence of `Compatible` -/
def Agrees (tbl : List (String × List WField)) (sch : List (String × List SField)) : Prop :=
  ∀ name wfs, lookupMsg tbl name = some wfs → ∃ sfs, lookupMsg sch name = some sfs ∧ ∀ wf ∈ wfs, FieldAgrees sfs wf

theorem agrees_of_compatible (tbl : List (String × List WField)) (sch : List (String × List SField))
    (h : Compatible tbl sch = true) : Agrees tbl sch := by
  intro pn pw hl
  unfold Compatible at h
  simp only [Bool.and_eq_true] at h
  have hp := List.all_eq_true.1 h.2 (pn, pw) (alook_mem hl)
  cases hs : lookupMsg sch pn with
  | none => rw [hs] at hp; cases hp
  | some sfs =>
    rw [hs] at hp
    simp only [Bool.and_eq_true, decide_eq_true_eq] at hp
    obtain ⟨⟨⟨⟨_, _⟩, hnd⟩, hw⟩, _⟩ := hp
    refine ⟨sfs, rfl, ?_⟩
    intro wf hwf
    have := List.all_eq_true.1 hw wf hwf
    simp only [Bool.and_eq_true, decide_eq_true_eq, List.any_eq_true] at this
    obtain ⟨⟨⟨_, _⟩, hlt⟩, s, hs', ⟨⟨⟨hn, hnum⟩, _⟩, hk⟩⟩ := this
    refine ⟨hlt, s, ?_, eq_of_beq hn, hk⟩
    rw [← eq_of_beq hnum]
    exact find?_key_of_nodup (·.num) hnd hs'

/-! ### the fields as the reader returns them: write order, at every level -/

def canonV (tbl : List (String × List WField)) : Nat → WField → PVal → PVal
  | d + 1, wf, .msg fs => match wf.kind with
    | .msg sub => match lookupMsg tbl sub with
      | some wfs => .msg ((emitOrder wfs fs).map fun p => (p.1.name, canonV tbl d p.1 p.2))
      | none => .msg fs
    | _ => .msg fs
  | _, _, v => v

def canon (tbl : List (String × List WField)) (d : Nat) (name : String) (fs : Fields) : Fields :=
  match lookupMsg tbl name with
  | some wfs => (emitOrder wfs fs).map fun p => (p.1.name, canonV tbl d p.1 p.2)
  | none => fs

theorem canonV_str (tbl) (d wf b) : canonV tbl d wf (.str b) = .str b := by cases d <;> rfl
theorem canonV_double (tbl) (d wf b) : canonV tbl d wf (.double b) = .double b := by cases d <;> rfl
theorem canonV_uint (tbl) (d wf b) : canonV tbl d wf (.uint b) = .uint b := by cases d <;> rfl
theorem canonV_int (tbl) (d wf b) : canonV tbl d wf (.int b) = .int b := by cases d <;> rfl
theorem canonV_enum (tbl) (d wf b) : canonV tbl d wf (.enum b) = .enum b := by cases d <;> rfl

theorem canonV_msg (tbl : List (String × List WField)) (d : Nat) {wf : WField} {sub : String} (hk : wf.kind = .msg sub)
    (fs : Fields) : canonV tbl (d + 1) wf (.msg fs) = .msg (canon tbl d sub fs) := by
  simp only [canonV, canon, hk]
  cases lookupMsg tbl sub <;> rfl

-- `canonV_msg` at a literal `WField`, so that `simp` fires on the table entries without the side condition
theorem canonV_mk (tbl : List (String × List WField)) (d : Nat) (nm : String) (num : Nat) (sub : String) (rep : Bool) (sz : SizeRule)
    (fs : Fields) : canonV tbl (d + 1) ⟨nm, num, .msg sub, rep, sz⟩ (.msg fs) = .msg (canon tbl d sub fs) :=
  canonV_msg tbl d rfl fs

theorem canon_eq {tbl : List (String × List WField)} {name : String} {wfs : List WField} (hl : lookupMsg tbl name = some wfs)
    (d : Nat) (fs : Fields) :
    canon tbl d name fs = wfs.flatMap fun w => (getAll fs w.name).map fun v => (w.name, canonV tbl d w v) := by
  simp only [canon, hl, emitOrder_map fun w v => (w.name, canonV tbl d w v)]

theorem varint_ne_nil (n : Nat) : varint n ≠ [] := by
  unfold varint varintFuel
  split <;> exact List.cons_ne_nil _ _

theorem takeExact_append (b rest : List UInt8) : takeExact b.length (b ++ rest) = some (b, rest) := by
  simp [takeExact]

theorem wireType_lt (k : FKind) : wireType k < 8 := by cases k <;> simp [wireType]

theorem wireType_of_kindCompat {a b : FKind} (h : kindCompat a b = true) : wireType b = wireType a := by
  cases a <;> cases b <;> simp [kindCompat] at h <;> simp [wireType]

theorem flattenOpt_cons (x : Option (List UInt8)) (xs : List (Option (List UInt8))) (bytes : List UInt8)
    (h : flattenOpt (x :: xs) = some bytes) : ∃ a b, x = some a ∧ flattenOpt xs = some b ∧ bytes = a ++ b := by
  change optAppend x (flattenOpt xs) = some bytes at h
  cases x <;> cases hb : flattenOpt xs <;> rw [hb] at h <;> cases h
  exact ⟨_, _, rfl, rfl, rfl⟩

/-! ### the round trip, by induction on the nesting depth -/

/-- the round trip of one field at nesting depth `d`, the induction hypothesis of `field_rt`: what is written is the tag
    and a payload which `decPayload`, under a compatible declaration, reads back as the field in write order, leaving
    the rest of the input -/
def FieldRT (tbl : List (String × List WField)) (sch : List (String × List SField)) (d : Nat) : Prop :=
  ∀ (wf : WField) (v : PVal) (bytes rest : List UInt8) (sf : SField),
    encField tbl d wf v = some bytes → bytes.length < 2 ^ 64 → kindCompat wf.kind sf.kind = true →
    ∃ payload, bytes = tag wf.num wf.kind ++ payload ∧ decPayload sch d sf (payload ++ rest) = some (canonV tbl d wf v, rest)

/-- the body of one message: (field, value) pairs written one after the other (`msg_rt` takes the `emitOrder` of the
    message) read back entry by entry. Any fuel above the number of bytes will do: every entry takes at least its tag byte -/
theorem list_rt (tbl : List (String × List WField)) (sch : List (String × List SField)) (d : Nat)
    (hF : FieldRT tbl sch d) (sfs : List SField) (l : List (WField × PVal)) (hag : ∀ p ∈ l, FieldAgrees sfs p.1)
    (bytes : List UInt8) (h : flattenOpt (l.map fun p => encField tbl d p.1 p.2) = some bytes) (hlen : bytes.length < 2 ^ 64)
    (fuel : Nat) (hf : bytes.length < fuel) :
    decFields (decPayload sch d) sfs fuel bytes = some (l.map fun p => (p.1.name, canonV tbl d p.1 p.2)) := by
  induction l generalizing bytes fuel with
  | nil =>
    obtain rfl : bytes = [] := (Option.some.inj h).symm
    cases fuel with
    | zero => cases hf
    | succ f => rfl
  | cons p l ih =>
    rw [List.forall_mem_cons] at hag
    obtain ⟨a, b, ha, hb, rfl⟩ := flattenOpt_cons _ _ _ h
    obtain ⟨hnum, sf, hfind, hname, hk⟩ := hag.1
    rw [List.length_append] at hlen hf
    obtain ⟨payload, rfl, hdec⟩ := hF p.1 p.2 a b sf ha (by omega) hk
    cases fuel with
    | zero => cases hf
    | succ fuel =>
      have hpos : 0 < (tag p.1.num p.1.kind).length := List.length_pos_iff.2 (varint_ne_nil _)
      rw [List.length_append] at hf
      have ihd := ih hag.2 b hb (by omega) fuel (by omega)
      have hw := wireType_lt p.1.kind
      have htag : readVarint 10 (tag p.1.num p.1.kind ++ payload ++ b) = some (p.1.num * 8 + wireType p.1.kind, payload ++ b) := by
        unfold tag
        rw [List.append_assoc]
        exact varint_rt _ _ (by omega)
      have hdiv : (p.1.num * 8 + wireType p.1.kind) / 8 = p.1.num := by omega
      have hmod : (p.1.num * 8 + wireType p.1.kind) % 8 = wireType sf.kind := by rw [wireType_of_kindCompat hk]; omega
      rw [decFields, htag]   -- the clause for non-empty input
      · simp only [hdiv, hfind, hmod, bne_self_eq_false, Bool.false_eq_true, if_false, hdec, ihd, List.map_cons, hname]
      · exact List.append_ne_nil_of_left_ne_nil (List.append_ne_nil_of_left_ne_nil (varint_ne_nil _) _) _

/-- a whole message at depth `d`, given its fields at depth `d` -/
theorem msg_rt (tbl : List (String × List WField)) (sch : List (String × List SField)) (hag : Agrees tbl sch)
    (d : Nat) (hF : FieldRT tbl sch d) (name : String) (fs : Fields) (bytes : List UInt8)
    (henc : encMsg tbl d name fs = some bytes) (hlen : bytes.length < 2 ^ 64) :
    decMsg sch d (bytes.length + 1) name bytes = some (canon tbl d name fs) := by
  unfold encMsg at henc
  cases hl : lookupMsg tbl name with
  | none => rw [hl] at henc; cases henc
  | some wfs =>
    rw [hl] at henc
    obtain ⟨sfs, hsl, hfa⟩ := hag name wfs hl
    unfold decMsg canon
    rw [hsl, hl]
    exact list_rt tbl sch d hF sfs _ (fun p hp => hfa _ (mem_emitOrder hp)) bytes henc hlen _ (Nat.lt_succ_self _)

/-- fields other than sub-messages: one case per scalar kind, the same at every depth -/
theorem scalar_rt (tbl : List (String × List WField)) (sch : List (String × List SField)) (d : Nat)
    (wf : WField) (v : PVal) (hv : ∀ fs, v ≠ .msg fs) (bytes rest : List UInt8) (sf : SField)
    (henc : encField tbl d wf v = some bytes) (hlen : bytes.length < 2 ^ 64) (hk : kindCompat wf.kind sf.kind = true) :
    ∃ payload, bytes = tag wf.num wf.kind ++ payload ∧ decPayload sch d sf (payload ++ rest) = some (canonV tbl d wf v, rest) := by
  cases v with
  | msg fs => exact absurd rfl (hv fs)
  | str b =>
    simp only [encField] at henc
    split at henc
    · rename_i hkind
      obtain rfl := (Option.some.inj henc).symm
      have hbl : b.length < 2 ^ 64 := by simp only [List.length_append] at hlen; omega
      refine ⟨varint b.length ++ b, by simp only [List.append_assoc], ?_⟩
      rw [hkind] at hk
      cases hsk : sf.kind <;> simp [kindCompat, hsk] at hk
      unfold decPayload
      simp only [hsk, List.append_assoc, varint_rt _ _ hbl, takeExact_append, Option.map_some, canonV_str]
    · cases henc
  | double bits =>
    simp only [encField] at henc
    split at henc
    · rename_i hkind
      obtain rfl := (Option.some.inj henc).symm
      refine ⟨fixed64 bits, rfl, ?_⟩
      rw [hkind] at hk
      cases hsk : sf.kind <;> simp [kindCompat, hsk] at hk
      unfold decPayload
      simp only [hsk, fixed64_rt, Option.map_some, canonV_double]
    · cases henc
  | uint n | int n | enum n =>
    simp only [encField] at henc
    split at henc
    · rename_i hkind
      obtain rfl := (Option.some.inj henc).symm
      refine ⟨varint n.toNat, rfl, ?_⟩
      rw [hkind] at hk
      -- the one kind the schema may declare for it
      cases hsk : sf.kind <;> simp [kindCompat, hsk] at hk
      unfold decPayload
      simp only [hsk, varint_rt _ _ n.toNat_lt, Option.map_some, canonV_uint, canonV_int, canonV_enum, UInt64.ofNat_toNat, Nat.toUInt64]
    · cases henc

theorem field_rt (tbl : List (String × List WField)) (sch : List (String × List SField)) (hag : Agrees tbl sch) :
    ∀ d, FieldRT tbl sch d := by
  intro d
  induction d with
  | zero =>
    intro wf v bytes rest sf henc hlen hk
    refine scalar_rt tbl sch 0 wf v (fun fs e => ?_) bytes rest sf henc hlen hk
    subst e; simp [encField] at henc
  | succ d ih =>
    intro wf v bytes rest sf henc hlen hk
    cases v with
    | msg fs =>
      -- a sub-message is its body (a message one level down) behind a tag and a length
      simp only [encField] at henc
      split at henc
      · rename_i sub hkind
        rw [hkind] at hk
        cases hsk : sf.kind <;> simp [kindCompat, hsk] at hk
        subst hk
        cases hlk : lookupMsg tbl sub with
        | none => simp [hlk] at henc
        | some wfs =>
          have hbody : ∃ body, encMsg tbl d sub fs = some body ∧ bytes = tag wf.num wf.kind ++ varint body.length ++ body := by
            simp only [encMsg, hlk] at henc ⊢
            split at henc
            · rename_i body hb; exact ⟨body, hb, (Option.some.inj henc).symm⟩
            · cases henc
          obtain ⟨body, hb, rfl⟩ := hbody
          have hbl : body.length < 2 ^ 64 := by simp only [List.length_append] at hlen; omega
          have hd := msg_rt tbl sch hag d ih sub fs body hb hbl
          obtain ⟨sfs, hsl, -⟩ := hag sub wfs hlk
          unfold decMsg at hd
          rw [hsl] at hd
          refine ⟨varint body.length ++ body, by simp only [List.append_assoc], ?_⟩
          unfold decPayload
          simp only [hsk, hsl, List.append_assoc, varint_rt _ _ hbl, takeExact_append, hd, Option.map_some, canonV_msg tbl d hkind]
      · cases henc
    | _ => exact scalar_rt tbl sch (d + 1) wf _ (fun fs e => by cases e) bytes rest sf henc hlen hk

theorem encodeStream_cons_ok {tbl : List (String × List WField)} {f : Family} {r : List Family} {bytes : List UInt8}
    (h : encodeStream tbl (f :: r) = (bytes, true)) :
    ∃ body, encMsg tbl 8 "MetricFamily" (familyFields f) = some body ∧
      bytes = varint body.length ++ body ++ (encodeStream tbl r).1 ∧ (encodeStream tbl r).2 = true := by
  unfold encodeStream encDelimited at h
  split at h
  · cases h
  · cases hm : encMsg tbl 8 "MetricFamily" (familyFields f) with
    | none => rw [hm] at h; cases h
    | some body =>
      rw [hm] at h
      obtain ⟨rfl, hok⟩ := Prod.mk.inj h
      exact ⟨body, rfl, rfl, hok⟩

/-- any fuel above the number of bytes will do: every frame has at least its length byte -/
theorem stream_rt (tbl : List (String × List WField)) (sch : List (String × List SField)) (hag : Agrees tbl sch)
    (fams : List Family) (bytes : List UInt8) (h : encodeStream tbl fams = (bytes, true)) (hlen : bytes.length < 2 ^ 64)
    (hcan : ∀ f ∈ fams, canon tbl 8 "MetricFamily" (familyFields f) = familyFields f) (fuel : Nat) (hf : bytes.length < fuel) :
    decStream sch fuel bytes = some (fams.map familyFields) := by
  induction fams generalizing bytes fuel with
  | nil =>
    obtain rfl : bytes = [] := (Prod.mk.inj h).1.symm
    cases fuel with
    | zero => cases hf
    | succ f => rfl
  | cons f r ih =>
    rw [List.forall_mem_cons] at hcan
    obtain ⟨body, hm, rfl, hok⟩ := encodeStream_cons_ok h
    simp only [List.length_append] at hlen hf
    cases fuel with
    | zero => cases hf
    | succ fuel =>
      have hpos : 0 < (varint body.length).length := List.length_pos_iff.2 (varint_ne_nil _)
      have ihd := ih _ (by rw [← hok]) (by omega) hcan.2 fuel (by omega)
      have hdm := msg_rt tbl sch hag 8 (field_rt tbl sch hag 8) "MetricFamily" (familyFields f) body hm (by omega)
      rw [hcan.1] at hdm
      rw [decStream, List.append_assoc, varint_rt _ _ (by omega)]   -- the clause for non-empty input
      · simp only [takeExact_append, hdm, ihd, List.map_cons]
      · exact List.append_ne_nil_of_left_ne_nil (List.append_ne_nil_of_left_ne_nil (varint_ne_nil _) _) _

end Prom.C13
