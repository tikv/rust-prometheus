import Prom.Lemmas.ListAux
import Prom.Lemmas.Pb.Canon
/- Reading the generic messages back into the data model inverts `familyFields` (C13): `mapM_msgToFamily`, for
   samples the wire can carry (`WfSample`). -/
namespace Prom.C13
open Prom.Pb

theorem u64_rt (n : Nat) (h : n < 2 ^ 64) : n.toUInt64.toNat = n := UInt64.toNat_ofNat_of_lt' h

theorem i64_rt (i : Int) (h1 : -9223372036854775808 ≤ i) (h2 : i < 9223372036854775808) : bitsToInt (i64Bits i) = i := by
  unfold i64Bits bitsToInt
  by_cases hp : i ≥ 0
  · have ht := u64_rt i.toNat (by omega)
    rw [if_pos hp, if_pos (by rw [UInt64.lt_iff_toNat_lt, ht]; show i.toNat < 9223372036854775808; omega), ht]
    omega
  · have ht := u64_rt (-i).toNat (by omega)
    have hs : ((0 : UInt64) - (-i).toNat.toUInt64).toNat = 18446744073709551616 - (-i).toNat := by
      rw [UInt64.toNat_sub, ht]
      simp
      omega
    rw [if_neg hp, if_neg (by rw [UInt64.lt_iff_toNat_lt, hs]; show ¬ (18446744073709551616 - (-i).toNat < 9223372036854775808); omega), hs]
    omega

theorem findSome_const_none {α β} (l : List α) : l.findSome? (fun _ => (none : Option β)) = none := by
  induction l <;> simp_all

/-- the values the wire can carry: counts below 2^64, a timestamp within i64, and an untyped sample
    (which the library never produces and the model writes without a value slot) reads back as 0 -/
def WfVal : MVal → Prop
  | .counter _ => True
  | .gauge _ => True
  | .untyped v => v = 0
  | .hist c _ bks => c < 2 ^ 64 ∧ ∀ b ∈ bks, b.2 < 2 ^ 64
  | .summary c _ _ => c < 2 ^ 64

def WfSample (s : Sample) : Prop := WfVal s.val ∧ -9223372036854775808 ≤ s.ts ∧ s.ts < 9223372036854775808

theorem msgToSample_fields (s : Sample) (h : WfSample s) : msgToSample (sampleFields s) = s := by
  obtain ⟨hv, h1, h2⟩ := h
  obtain ⟨labels, val, ts⟩ := s
  simp only at hv h1 h2
  unfold msgToSample getMsg getMsgs
  -- what `sampleFields` holds under each of the six names that are read, whatever the kind of value
  simp only [getAll_sampleFields, getAll_valFields_outer, String.reduceBEq, ↓reduceIte, Bool.false_eq_true, List.nil_append,
    List.append_nil, ite_self]
  congr 1
  · simp [labelMsg, getStr, getAll_cons, asMsg, List.filterMap_map, Function.comp_def]
  · cases val with
    | counter v => simp [valFields, getAll_cons, getDouble]
    | gauge v => simp [valFields, getAll_cons, getDouble]
    | untyped v => obtain rfl : v = 0 := hv; simp [valFields]
    | hist c sm bks =>
      have hbk : bks.map (fun b => (b.1, b.2 % 18446744073709551616)) = bks :=
        map_eq_self_of_forall_mem _ _ fun b hb => by rw [Nat.mod_eq_of_lt (hv.2 b hb)]
      simp [valFields, getAll_cons, getAll_map, getDouble, getUint, asMsg, List.filterMap_map, Function.comp_def,
        Nat.mod_eq_of_lt hv.1, hbk]
    | summary c sm qs =>
      simp [valFields, getAll_cons, getAll_map, getDouble, getUint, asMsg, List.filterMap_map, Function.comp_def,
        Nat.mod_eq_of_lt (hv : c < _)]
  · by_cases ht : ts = 0 <;> simp [ht, i64_rt ts h1 h2]

theorem numToType_typeNum (t : MType) : numToType (typeNum t) = some t := by cases t <;> rfl

theorem msgToFamily_fields (f : Family) (h : ∀ s ∈ f.samples, WfSample s) : msgToFamily (familyFields f) = some f := by
  obtain ⟨name, help, ty, samples⟩ := f
  have hm : (samples.map sampleFields).map msgToSample = samples := by
    rw [List.map_map]; exact map_eq_self_of_forall_mem _ _ fun s hs => msgToSample_fields s (h s hs)
  simp [msgToFamily, getStr, getMsgs, familyFields, getAll_cons, getAll_map, sampleMsg_eq, asMsg, List.filterMap_map, Function.comp_def,
    numToType_typeNum, hm]

theorem mapM_msgToFamily (fams : List Family) (h : ∀ f ∈ fams, ∀ s ∈ f.samples, WfSample s) :
    (fams.map familyFields).mapM msgToFamily = some fams := by
  induction fams with
  | nil => rfl
  | cons f r ih =>
    simp only [List.map_cons, List.mapM_cons, msgToFamily_fields f (h f (by simp)), ih (fun g hg => h g (by simp [hg]))]
    rfl

end Prom.C13
