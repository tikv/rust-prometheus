import Prom.Model.PbDecode
/-
`getAll fs n` (all values filed under the name `n`, in order) is the one observation both the
data-model readers (`msgTo…`) and the writer's ordering (`emitOrder`) make of a field list.
The lemmas evaluate it on lists built by `::`, `++`, `map` and `if`. They speak of the model's `Pb.getAll` and
`Pb.emitOrder` alone and stand in their namespace; the other Pb lemma files speak of C13's own notions (`canon`,
`Compatible`, …) and stand in `Prom.C13`.
-/
namespace Prom.Pb

@[simp] theorem getAll_nil (n : String) : getAll [] n = [] := rfl

-- stated with `++` so that the tail occurs once (an `if` with the tail in both arms doubles the term at every entry)
theorem getAll_cons (m : String) (v : PVal) (r : Fields) (n : String) :
    getAll ((m, v) :: r) n = (if m == n then [v] else []) ++ getAll r n := by
  unfold getAll
  rw [List.filterMap_cons]
  cases m == n <;> rfl

theorem getAll_append (a b : Fields) (n : String) : getAll (a ++ b) n = getAll a n ++ getAll b n :=
  List.filterMap_append ..

theorem getAll_map {α} (l : List α) (m : String) (f : α → PVal) (n : String) :
    getAll (l.map fun x => (m, f x)) n = if m == n then l.map f else [] := by
  induction l with
  | nil => cases m == n <;> rfl
  | cons a r ih =>
    rw [List.map_cons, getAll_cons, ih]
    cases m == n <;> rfl

theorem getAll_ite (c : Prop) [Decidable c] (a b : Fields) (n : String) :
    getAll (if c then a else b) n = if c then getAll a n else getAll b n := apply_ite ..

theorem filter_name (fs : Fields) (n : String) : fs.filter (·.1 == n) = (getAll fs n).map (n, ·) := by
  induction fs with
  | nil => rfl
  | cons p r ih =>
    rw [List.filter_cons, getAll_cons, ih]
    cases h : p.1 == n
    · rfl
    · rw [← eq_of_beq h]; rfl

theorem emitOrder_map {β} (g : WField → PVal → β) (wfs : List WField) (fs : Fields) :
    (emitOrder wfs fs).map (fun p => g p.1 p.2) = wfs.flatMap fun wf => (getAll fs wf.name).map (g wf) := by
  simp only [emitOrder, List.map_flatMap, filter_name, List.map_map, Function.comp_def]

theorem mem_emitOrder {wfs : List WField} {fs : Fields} {p : WField × PVal} (hp : p ∈ emitOrder wfs fs) : p.1 ∈ wfs := by
  obtain ⟨w, hw, hp⟩ := List.mem_flatMap.1 hp
  obtain ⟨q, _, rfl⟩ := List.mem_map.1 hp
  exact hw

end Prom.Pb
