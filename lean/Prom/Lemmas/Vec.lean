import Prom.Model.Vec
import Prom.Lemmas.ListAux
/- The metric vector (C05, C12, C17): what `hashLabelValues`, `withLabelValues` / `removeLabelValues`
   (`…_ok`, `…_err`), `getOrCreate` (`getOrCreate_cases`) and `removeKey` do; the conditions on the key map
   `KeysOk` and `VecInv` with their preservation by `getOrCreate`; lookups issued one after the other
   (`C17.afterLookups`, a definition the statements of C17 need, and `afterLookups_inv`). -/
namespace Prom

/-- `alook` at `UInt64 × Nat`: `lookupKey v k` is `afind v.children k` -/
def afind (l : List (UInt64 × Nat)) (k : UInt64) : Option Nat := (l.find? (·.1 == k)).map (·.2)

theorem afind_of_mem {l : List (UInt64 × Nat)} (hn : (l.map (·.1)).Nodup) {k : UInt64} {id : Nat}
    (h : (k, id) ∈ l) : afind l k = some id := alook_of_mem hn h

theorem hash_ok (v : MVec) (vals : List Str) (hl : vals.length = v.names.length) :
    hashLabelValues v vals = .ok (vecKey vals) := by
  simp [hashLabelValues, hl]

theorem hash_err (v : MVec) (vals : List Str) (hl : vals.length ≠ v.names.length) :
    hashLabelValues v vals = .error (.card v.names.length vals.length) := by
  simp [hashLabelValues, hl]

theorem withLabelValues_err (v : MVec) (vals : List Str) (hl : vals.length ≠ v.names.length) :
    withLabelValues v vals = (v, .error (.card v.names.length vals.length)) := by
  rw [withLabelValues, hash_err v vals hl]

theorem removeLabelValues_err (v : MVec) (vals : List Str) (hl : vals.length ≠ v.names.length) :
    removeLabelValues v vals = (v, .error (.card v.names.length vals.length)) := by
  rw [removeLabelValues, hash_err v vals hl]

theorem withLabelValues_ok (v : MVec) (vals : List Str) (hl : vals.length = v.names.length) :
    withLabelValues v vals = getOrCreate v (vecKey vals) vals := by
  rw [withLabelValues, hash_ok v vals hl]

theorem removeLabelValues_ok (v : MVec) (vals : List Str) (hl : vals.length = v.names.length) :
    removeLabelValues v vals = removeKey v (vecKey vals) := by
  rw [removeLabelValues, hash_ok v vals hl]

theorem getOrCreate_cases (v : MVec) (k : UInt64) (vals : List Str) :
    (∃ id, lookupKey v k = some id ∧ getOrCreate v k vals = (v, .ok id)) ∨
    (lookupKey v k = none ∧ v.buildFails = true ∧ getOrCreate v k vals = (v, .error .msg)) ∨
    (lookupKey v k = none ∧ v.buildFails = false ∧ getOrCreate v k vals =
      ({ v with children := v.children ++ [(k, v.store.length)],
                store := v.store ++ [⟨childLabels v vals, 0⟩] }, .ok v.store.length)) := by
  unfold getOrCreate
  cases hl : lookupKey v k with
  | some id => exact .inl ⟨id, rfl, rfl⟩
  | none => cases hb : v.buildFails <;> simp

theorem getOrCreate_binds {v v' : MVec} {k : UInt64} {vals : List Str} {a : Nat}
    (h : getOrCreate v k vals = (v', .ok a)) :
    (k, a) ∈ v'.children ∧ ∀ p ∈ v.children, p ∈ v'.children := by
  rcases getOrCreate_cases v k vals with ⟨id, hl, e⟩ | ⟨_, _, e⟩ | ⟨_, _, e⟩ <;> rw [e] at h <;> cases h
  · exact ⟨alook_mem hl, fun _ hp => hp⟩
  · exact ⟨by simp, fun _ hp => List.mem_append_left _ hp⟩

theorem childLabels_of_ne (v : MVec) (vals : List Str) (hne : v.names ≠ []) :
    childLabels v vals = stableSortBy lpLe ((v.names.zip vals).map (fun p => ⟨p.1, p.2⟩) ++ v.consts) := by
  unfold childLabels
  cases hnm : v.names with
  | nil => exact absurd hnm hne
  | cons a t => simp

theorem removeKey_only_unlinks (v : MVec) (k : UInt64) :
    (removeKey v k).1.store = v.store ∧ ∀ p ∈ (removeKey v k).1.children, p ∈ v.children := by
  unfold removeKey
  cases lookupKey v k with
  | none => exact ⟨rfl, fun _ h => h⟩
  | some id => exact ⟨rfl, fun p h => (List.mem_filter.1 h).1⟩

/-- the ids of the key map denote stored children; `VecInv.range` and the first conjunct of `VWf`
    (Lemmas/LocalVec) spell this body out -/
abbrev KeysOk (v : MVec) : Prop := ∀ p ∈ v.children, p.2 < v.store.length

structure VecInv (v : MVec) : Prop where
  keys : (v.children.map (·.1)).Nodup
  ids : (v.children.map (·.2)).Nodup
  range : ∀ p ∈ v.children, p.2 < v.store.length

theorem getOrCreate_keysOk {v v' : MVec} {k : UInt64} {vals : List Str} {r : Except VErr Nat}
    (hk : KeysOk v) (h : getOrCreate v k vals = (v', r)) : KeysOk v' := by
  rcases getOrCreate_cases v k vals with ⟨id, _, e⟩ | ⟨_, _, e⟩ | ⟨_, _, e⟩ <;> rw [e] at h <;> cases h
  · exact hk
  · exact hk
  · simp only [KeysOk, List.forall_mem_append, List.forall_mem_singleton, List.length_append, List.length_singleton]
    exact ⟨fun p hp => Nat.lt_succ_of_lt (hk p hp), Nat.lt_succ_self _⟩

theorem getOrCreate_inv {v v' : MVec} {k : UInt64} {vals : List Str} {r : Except VErr Nat}
    (hi : VecInv v) (h : getOrCreate v k vals = (v', r)) : VecInv v' := by
  have hr := getOrCreate_keysOk hi.range h
  rcases getOrCreate_cases v k vals with ⟨id, _, e⟩ | ⟨_, _, e⟩ | ⟨hl, _, e⟩ <;> rw [e] at h <;> cases h
  · exact hi
  · exact hi
  · exact ⟨nodup_map_concat hi.keys (alook_eq_none.1 hl),
      nodup_map_concat hi.ids fun p hp => Nat.ne_of_lt (hi.range p hp), hr⟩

end Prom

namespace Prom.C17

/-- the vector after the well-formed (or not) lookups `pre` were issued one after the other: what the
    driver builds for a `fall vec … pre=…` request before the call under test -/
def afterLookups (v : MVec) (pre : List (List Str)) : MVec :=
  pre.foldl (fun v a => (withLabelValues v a).1) v

theorem withLabelValues_grows (v : MVec) (a : List Str) :
    (withLabelValues v a).1.names = v.names ∧ (withLabelValues v a).1.buildFails = v.buildFails ∧
    (∀ p ∈ v.children, p ∈ (withLabelValues v a).1.children) ∧
    (v.buildFails = false → a.length = v.names.length →
      ∃ p ∈ (withLabelValues v a).1.children, p.1 = vecKey a) := by
  by_cases hl : a.length = v.names.length
  · rw [withLabelValues_ok v a hl]
    rcases getOrCreate_cases v (vecKey a) a with ⟨id, h, e⟩ | ⟨_, h, e⟩ | ⟨_, _, e⟩ <;> rw [e]
    · exact ⟨rfl, rfl, fun _ hp => hp, fun _ _ => ⟨_, alook_mem h, rfl⟩⟩
    · exact ⟨rfl, rfl, fun _ hp => hp, fun hb => by rw [hb] at h; cases h⟩
    · exact ⟨rfl, rfl, fun _ hp => List.mem_append_left _ hp, fun _ _ => ⟨(vecKey a, v.store.length), by simp, rfl⟩⟩
  · rw [withLabelValues_err v a hl]
    exact ⟨rfl, rfl, fun _ hp => hp, fun _ h => absurd h hl⟩

theorem afterLookups_inv (v : MVec) (pre : List (List Str)) :
    (afterLookups v pre).names = v.names ∧ (afterLookups v pre).buildFails = v.buildFails ∧
    (v.buildFails = false → ∀ a ∈ pre, a.length = v.names.length →
      ∃ p ∈ (afterLookups v pre).children, p.1 = vecKey a) := by
  refine foldl_prefix_invariant (fun w a => (withLabelValues w a).1)
    (fun pre w => w.names = v.names ∧ w.buildFails = v.buildFails ∧ (v.buildFails = false → ∀ a ∈ pre,
      a.length = v.names.length → ∃ p ∈ w.children, p.1 = vecKey a)) ?_ pre [] v
    ⟨rfl, rfl, fun _ _ h => nomatch h⟩
  intro pre a w ⟨hn, hb, hp⟩
  obtain ⟨h1, h2, h3, h4⟩ := withLabelValues_grows w a
  refine ⟨h1.trans hn, h2.trans hb, fun hv x hx hl => ?_⟩
  rcases List.mem_append.1 hx with hx | hx
  · obtain ⟨p, hp, hk⟩ := hp hv x hx hl
    exact ⟨p, h3 p hp, hk⟩
  · cases List.mem_singleton.1 hx
    exact h4 (hb.trans hv) (hn ▸ hl)

end Prom.C17
