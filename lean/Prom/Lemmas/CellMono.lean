import Prom.Lemmas.CellMachine
/-
The values of a cell along a commit log, and monotone reads. For both flavours: `valuesAlong` lists the value after
each committed operation and is tied to `specRun` (`specRun_last`, `specRun_get`); if the values are pairwise ordered,
two committed `get`s read in log order (`spec_reads_pairwise`; `Lemmas/CellFloatMono.lean` builds on these). For the
INTEGER flavour: an increment-only log (`IncOnly`) whose deltas do not add up to `2^64` (`NoWrap`) has non-decreasing
values (`int_values_monotone`), and `hexStr_inj`: the string a `get` returns determines the value it read.
-/
namespace Prom.C01
open Prom.Conc

/-- the value of the cell after each committed operation of a log, starting from `v`: entry `i` is
    the value right after the `i`-th operation took effect (for a `get`: the value it read). An
    entry that is not an operation of the flavour leaves the value as it is (this never happens for
    the integer flavour, nor in a log accepted by `specRun`). -/
def valuesAlong (float : Bool) : UInt64 → List LinEv → List UInt64
  | _, [] => []
  | v, x :: r =>
    match specApply float v x.op with
    | some (v', _) => v' :: valuesAlong float v' r
    | none => v :: valuesAlong float v r

theorem valuesAlong_cons {float : Bool} {v v' : UInt64} {rv : String} {x : LinEv} (r : List LinEv)
    (h : specApply float v x.op = some (v', rv)) : valuesAlong float v (x :: r) = v' :: valuesAlong float v' r := by
  simp only [valuesAlong, h]

theorem valuesAlong_length (float : Bool) (v : UInt64) (l : List LinEv) :
    (valuesAlong float v l).length = l.length := by
  induction l generalizing v with
  | nil => rfl
  | cons x r ih =>
    simp only [valuesAlong]
    split <;> simp [ih]

theorem valuesAlong_append (float : Bool) (v : UInt64) (l₁ l₂ : List LinEv) :
    valuesAlong float v (l₁ ++ l₂) =
      valuesAlong float v l₁ ++ valuesAlong float ((valuesAlong float v l₁).getLastD v) l₂ := by
  induction l₁ generalizing v with
  | nil => simp [valuesAlong]
  | cons x r ih =>
    simp only [List.cons_append, valuesAlong]
    split
    · simp only [List.cons_append, List.getLastD_cons, ih]
    · simp only [List.cons_append, List.getLastD_cons, ih]

theorem valuesAlong_prefix (float : Bool) (v : UInt64) {l₁ l₂ : List LinEv} (h : l₁ <+: l₂) :
    valuesAlong float v l₁ <+: valuesAlong float v l₂ := by
  obtain ⟨t, rfl⟩ := h
  rw [valuesAlong_append]
  exact List.prefix_append _ _

theorem specRun_last {float : Bool} {v w : UInt64} {l : List LinEv}
    (h : specRun float v l = some w) : (valuesAlong float v l).getLastD v = w := by
  induction l generalizing v with
  | nil => cases h; rfl
  | cons x r ih =>
    obtain ⟨v', hsp, h⟩ := specRun_cons h
    rw [valuesAlong_cons r hsp, List.getLastD_cons]
    exact ih h

theorem specRun_get {float : Bool} {v w : UInt64} {l : List LinEv}
    (h : specRun float v l = some w) {i : Nat} {x : LinEv} (hx : l[i]? = some x)
    (hg : opName x.op = "get") : ∃ u, (valuesAlong float v l)[i]? = some u ∧ x.rv = hexStr u := by
  induction l generalizing v i with
  | nil => simp at hx
  | cons y r ih =>
    obtain ⟨v', hsp, h⟩ := specRun_cons h
    rw [valuesAlong_cons r hsp]
    cases i with
    | zero =>
      cases hx
      rw [specApply_get _ _ hg, Option.some.injEq, Prod.mk.injEq] at hsp
      exact ⟨v', rfl, hsp.1 ▸ hsp.2.symm⟩
    | succ i => exact ih h hx

/-- `R`: `≤` for the integer counter, IEEE `<=` for the float counter -/
theorem spec_reads_pairwise {float : Bool} {R : UInt64 → UInt64 → Prop} {l : List LinEv} {w : UInt64}
    (hs : specRun float 0 l = some w) (hp : List.Pairwise R (valuesAlong float 0 l)) {i j : Nat} (hij : i < j)
    {x y : LinEv} (hx : l[i]? = some x) (hy : l[j]? = some y)
    (hgx : opName x.op = "get") (hgy : opName y.op = "get") :
    ∃ vi vj, (valuesAlong float 0 l)[i]? = some vi ∧ (valuesAlong float 0 l)[j]? = some vj ∧
      x.rv = hexStr vi ∧ y.rv = hexStr vj ∧ R vi vj := by
  obtain ⟨vi, hvi, hri⟩ := specRun_get hs hx hgx
  obtain ⟨vj, hvj, hrj⟩ := specRun_get hs hy hgy
  refine ⟨vi, vj, hvi, hvj, hri, hrj, ?_⟩
  obtain ⟨hi', rfl⟩ := List.getElem?_eq_some_iff.mp hvi
  obtain ⟨hj', rfl⟩ := List.getElem?_eq_some_iff.mp hvj
  exact List.pairwise_iff_getElem.mp hp i j hi' hj' hij

def IncOnly (l : List LinEv) : Prop :=
  ∀ x ∈ l, opName x.op = "get" ∨ opName x.op = "inc" ∨ opName x.op = "incby" ∨ opName x.op = "lflush"

/-- the amount an operation of an increment-only log adds to the integer cell, as a natural number
    (`0` for a `get`, `1` for `inc`, the unsigned operand for `incby` / `lflush`) -/
def opDeltaNat (op : String) : Nat := if opName op == "get" then 0 else (intDelta op).toNat

def deltaSum (l : List LinEv) : Nat := (l.map fun x => opDeltaNat x.op).sum

/-- the integer deltas of the whole log, added as natural numbers, stay below `2^64`: the 64-bit
    cell never wraps around -/
def NoWrap (l : List LinEv) : Prop := deltaSum l < 2 ^ 64

theorem deltaSum_nil : deltaSum [] = 0 := rfl
theorem deltaSum_cons (x : LinEv) (l : List LinEv) : deltaSum (x :: l) = opDeltaNat x.op + deltaSum l := by
  simp [deltaSum]
theorem deltaSum_append (l₁ l₂ : List LinEv) : deltaSum (l₁ ++ l₂) = deltaSum l₁ + deltaSum l₂ := by
  simp [deltaSum]

theorem IncOnly.of_prefix {l₁ l₂ : List LinEv} (h : IncOnly l₂) (hp : l₁ <+: l₂) : IncOnly l₁ :=
  fun x hx => h x (hp.subset hx)

theorem NoWrap.of_prefix {l₁ l₂ : List LinEv} (h : NoWrap l₂) (hp : l₁ <+: l₂) : NoWrap l₁ := by
  obtain ⟨t, rfl⟩ := hp
  unfold NoWrap at h ⊢
  rw [deltaSum_append] at h
  omega

theorem specApply_incOnly (v : UInt64) {op : String}
    (h : opName op = "get" ∨ opName op = "inc" ∨ opName op = "incby" ∨ opName op = "lflush")
    (hov : v.toNat + opDeltaNat op < 2 ^ 64) :
    ∃ v' rv, specApply false v op = some (v', rv) ∧ v'.toNat = v.toNat + opDeltaNat op := by
  by_cases hg : opName op = "get"
  · exact ⟨v, hexStr v, specApply_get _ _ hg, by simp [opDeltaNat, hg]⟩
  · have hgb : (opName op == "get") = false := by simpa using hg
    have hd : opDeltaNat op = (intDelta op).toNat := by simp [opDeltaNat, hgb]
    have hns : (opName op == "set" || opName op == "reset") = false := by
      rcases h with h | h | h | h <;> rw [h] <;> decide +kernel
    have hsub : isSubOp op = false := by
      unfold isSubOp
      rcases h with h | h | h | h <;> rw [h] <;> decide +kernel
    refine ⟨v + intDelta op, "", by rw [specApply_int v hgb hns, hsub]; rfl, ?_⟩
    rw [hd] at hov ⊢
    rw [UInt64.toNat_add, Nat.mod_eq_of_lt hov]

theorem int_values_monotone_from (v : UInt64) (l : List LinEv) (hi : IncOnly l)
    (hw : v.toNat + deltaSum l < 2 ^ 64) :
    (∀ u ∈ valuesAlong false v l, v ≤ u) ∧ List.Pairwise (· ≤ ·) (valuesAlong false v l) := by
  induction l generalizing v with
  | nil => simp [valuesAlong]
  | cons x r ih =>
    rw [deltaSum_cons] at hw
    obtain ⟨v', rv, hsp, hv'⟩ := specApply_incOnly v (hi x (List.mem_cons_self ..)) (by omega)
    have hle : v ≤ v' := by rw [UInt64.le_iff_toNat_le]; omega
    obtain ⟨ih1, ih2⟩ := ih v' (fun y hy => hi y (List.mem_cons_of_mem _ hy)) (by omega)
    rw [valuesAlong_cons r hsp]
    refine ⟨?_, List.pairwise_cons.mpr ⟨ih1, ih2⟩⟩
    intro u hu
    rcases List.mem_cons.mp hu with rfl | hu
    · exact hle
    · exact UInt64.le_trans hle (ih1 u hu)

theorem int_values_monotone {l : List LinEv} (hi : IncOnly l) (hw : NoWrap l) :
    List.Pairwise (· ≤ ·) (valuesAlong false 0 l) :=
  (int_values_monotone_from 0 l hi (by simpa [NoWrap] using hw)).2

theorem digitChar_inj16 : ∀ a b : Fin 16, Nat.digitChar a.val = Nat.digitChar b.val → a = b := by
  decide +kernel

theorem toDigits16_inj : ∀ n m : Nat, Nat.toDigits 16 n = Nat.toDigits 16 m → n = m := by
  intro n
  induction n using Nat.strongRecOn with
  | _ n ih =>
    intro m h
    -- equal digit lists have equal length, so `n` and `m` are both below 16 or both not
    have hlt : n < 16 ↔ m < 16 := by
      have hn := Nat.length_toDigits_le_iff (b := 16) (n := n) (k := 1) (by decide) (by decide)
      rwa [h, Nat.length_toDigits_le_iff (by decide) (by decide), iff_comm] at hn
    by_cases hn : n < 16
    · have hm := hlt.1 hn
      rw [Nat.toDigits_of_lt_base hn, Nat.toDigits_of_lt_base hm] at h
      exact congrArg Fin.val (digitChar_inj16 ⟨n, hn⟩ ⟨m, hm⟩ (List.cons.inj h).1)
    · have hm : ¬ m < 16 := fun h' => hn (hlt.2 h')
      rw [Nat.toDigits_of_base_le (by decide) (Nat.le_of_not_lt hn),
        Nat.toDigits_of_base_le (by decide) (Nat.le_of_not_lt hm)] at h
      obtain ⟨h1, h2⟩ := List.append_inj' h rfl
      have hq := ih (n / 16) (by omega) (m / 16) h1
      have hr := congrArg Fin.val (digitChar_inj16 ⟨n % 16, Nat.mod_lt _ (by decide)⟩ ⟨m % 16, Nat.mod_lt _ (by decide)⟩
        (List.cons.inj h2).1)
      simp only at hr
      omega

theorem hexStr_inj {a b : UInt64} (h : hexStr a = hexStr b) : a = b :=
  UInt64.toNat_inj.mp (toDigits16_inj _ _ (String.ofList_injective h))

end Prom.C01
