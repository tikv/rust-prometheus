import Prom.Model.Histogram
import Prom.Lemmas.F64Order
/- The sequential histogram: strictly increasing bounds, the first-match rule `findBucket` against them, and the
   bucketing step `C08.bucketStep` in closed form. Used by C08 and, through LocalHist, by C12 (which builds on
   `bucketStep` but uses no lemma from here), and by the value semantics of C02 (HistValues: `observed_getD`,
   `foldl_bucketStep_take_sum`, `cumulate_eq_map`; Props/C02: `findBucket_spec`). -/
namespace Prom

/-- strictly increasing and free of NaN: the singleton clause asks for a number, `f64Lt` gives it for the
    longer lists (`strictIncr_iff`) -/
def StrictIncr : List UInt64 → Prop
  | [] => True
  | [a] => f64IsNaN a = false
  | a :: b :: r => f64Lt a b = true ∧ StrictIncr (b :: r)

theorem strictIncr_iff (bs : List UInt64) :
    StrictIncr bs ↔ bs.Pairwise (fun a b => f64Lt a b = true) ∧ ∀ x ∈ bs, f64IsNaN x = false := by
  induction bs with
  | nil => simp [StrictIncr]
  | cons a r ih =>
    cases r with
    | nil => simp [StrictIncr]
    | cons b r =>
      simp only [StrictIncr, ih, List.pairwise_cons, List.forall_mem_cons]
      constructor
      · rintro ⟨hab, ⟨hb, hp⟩, hnb, hn⟩
        exact ⟨⟨⟨hab, fun x hx => f64Lt_trans hab (hb x hx)⟩, hb, hp⟩, ((f64Lt_iff _ _).1 hab).1, hnb, hn⟩
      · rintro ⟨⟨⟨hab, _⟩, hb, hp⟩, _, hnb, hn⟩
        exact ⟨hab, ⟨hb, hp⟩, hnb, hn⟩

theorem StrictIncr.notNaN {bs : List UInt64} (h : StrictIncr bs) : ∀ x ∈ bs, f64IsNaN x = false :=
  ((strictIncr_iff bs).1 h).2

theorem bucketsOk_iff (bs : List UInt64) : bucketsOk bs = true ↔ StrictIncr bs := by
  induction bs with
  | nil => simp [bucketsOk, StrictIncr]
  | cons a r ih =>
    cases r with
    | nil => simp [bucketsOk, StrictIncr]
    | cons b r =>
      simp only [bucketsOk, StrictIncr, Bool.and_eq_true, Bool.not_eq_true'] at *
      rw [ih]
      constructor
      · rintro ⟨⟨ha, hge⟩, hs⟩
        exact ⟨(f64_not_ge_iff_lt ha (hs.notNaN b List.mem_cons_self)).1 hge, hs⟩
      · rintro ⟨hlt, hs⟩
        have h := (f64Lt_iff _ _).1 hlt
        exact ⟨⟨h.1, (f64_not_ge_iff_lt h.1 h.2.1).2 hlt⟩, hs⟩

theorem StrictIncr.lt_of_lt {bs : List UInt64} (h : StrictIncr bs) {i j : Nat} {a b : UInt64} (hij : i < j)
    (ha : bs[i]? = some a) (hb : bs[j]? = some b) : f64Lt a b = true := by
  obtain ⟨hi, rfl⟩ := List.getElem?_eq_some_iff.1 ha
  obtain ⟨hj, rfl⟩ := List.getElem?_eq_some_iff.1 hb
  exact List.pairwise_iff_getElem.1 ((strictIncr_iff bs).1 h).1 i j hi hj hij

theorem StrictIncr.sublist {bs cs : List UInt64} (h : StrictIncr bs) (hc : cs.Sublist bs) : StrictIncr cs :=
  (strictIncr_iff cs).2 ⟨((strictIncr_iff bs).1 h).1.sublist hc, fun x hx => h.notNaN x (hc.subset hx)⟩

theorem findBucket_eq_findIdx? (bounds : List UInt64) (v : UInt64) :
    findBucket bounds v = bounds.findIdx? (f64Le v ·) := by
  induction bounds with
  | nil => rfl
  | cons b r ih => rw [findBucket, List.findIdx?_cons, ih]

theorem findBucket_lt {bounds : List UInt64} {v : UInt64} {i : Nat} (h : findBucket bounds v = some i) :
    i < bounds.length := by
  rw [findBucket_eq_findIdx?, List.findIdx?_eq_some_iff_getElem] at h
  exact h.1

theorem findBucket_eq_none {bounds : List UInt64} {v : UInt64} :
    findBucket bounds v = none ↔ ∀ b ∈ bounds, f64Le v b = false := by
  rw [findBucket_eq_findIdx?, List.findIdx?_eq_none_iff]

/-- the first-match rule against sorted bounds is the `<=` rule: the bucket of `v` is at most `i` iff `v <=` bound `i` -/
theorem findBucket_spec {bounds : List UInt64} (hs : StrictIncr bounds) (v : UInt64) {i : Nat} {b : UInt64}
    (hb : bounds[i]? = some b) : (findBucket bounds v).any (· ≤ i) = f64Le v b := by
  rw [Bool.eq_iff_iff, Option.any_eq_true]
  cases hf : findBucket bounds v with
  | none => simpa using findBucket_eq_none.1 hf b (List.mem_of_getElem? hb)
  | some j =>
    rw [findBucket_eq_findIdx?, List.findIdx?_eq_some_iff_getElem] at hf
    obtain ⟨hj, hle, hfirst⟩ := hf
    obtain ⟨hi, rfl⟩ := List.getElem?_eq_some_iff.1 hb
    simp only [Option.some.injEq, exists_eq_left', decide_eq_true_eq]
    constructor
    · intro hji
      rcases Nat.lt_or_eq_of_le hji with hlt | rfl
      · exact f64Le_of_le_of_lt hle (hs.lt_of_lt hlt (List.getElem?_eq_getElem hj) hb)
      · exact hle
    · exact fun hv => Nat.le_of_not_lt fun hij => hfirst i hij hv

/-- cumulative counts against a list of bounds: entry `i` is what `g` gives for the bound at `i` as soon as the
    first `i + 1` counts add up to it -/
theorem cumulate_eq_map {β} (g : β → Nat) (cs : List Nat) (bs : List β) (acc : Nat) (hl : cs.length = bs.length)
    (h : ∀ i b, bs[i]? = some b → acc + (cs.take (i + 1)).sum = g b) : cumulate acc cs = bs.map g := by
  induction cs generalizing bs acc with
  | nil => cases bs with | nil => rfl | cons _ _ => cases hl
  | cons c r ih =>
    cases bs with
    | nil => cases hl
    | cons b bs =>
      rw [cumulate, List.map_cons, ← h 0 b rfl, ih bs (acc + c) (by simpa using hl) fun i b' hb => by
        rw [← h (i + 1) b' hb, List.take_succ_cons, List.sum_cons, Nat.add_assoc]]
      simp

theorem bumpAt_eq_modify (cs : List Nat) : ∀ j d, bumpAt cs j d = cs.modify j (· + d) := by
  induction cs with
  | nil => intro j d; simp [bumpAt]
  | cons c r ih => intro j d; cases j <;> simp [bumpAt, ih]

theorem sum_modify_add (l : List Nat) {j : Nat} (d : Nat) (h : j < l.length) :
    (l.modify j (· + d)).sum = l.sum + d := by
  rw [List.modify_eq_take_cons_drop h]
  conv => rhs; rw [← List.take_append_drop j l, List.drop_eq_getElem_cons h]
  simp only [List.sum_append_nat, List.sum_cons]
  omega

end Prom

namespace Prom.C08

/-- the bucketing rule shared by `Hist.observe` and `LH.observe`: bump the first bucket whose bound is `>= v`, if
    any. The two are tied to it by `rfl` inside `hist_observeAll` / `lh_observeAll` (LocalHist), `HM.obsOfVals` in
    HistValues (`obsOfVals_count`). -/
def bucketStep (bounds : List UInt64) (cs : List Nat) (v : UInt64) : List Nat :=
  match findBucket bounds v with
  | some i => bumpAt cs i 1
  | none => cs

theorem bucketStep_eq (bounds : List UInt64) (cs : List Nat) (v : UInt64) :
    bucketStep bounds cs v = cs.mapIdx fun c n => n + if findBucket bounds v = some c then 1 else 0 := by
  refine (List.mapIdx_eq_iff.2 fun c => ?_).symm
  unfold bucketStep
  cases findBucket bounds v with
  | none => simp
  | some j =>
    simp only [bumpAt_eq_modify, List.getElem?_modify, Option.some.injEq]
    split <;> rfl

theorem foldl_bucketStep_eq (bounds : List UInt64) (vs : List UInt64) : ∀ cs : List Nat,
    vs.foldl (bucketStep bounds) cs = cs.mapIdx fun c n => n + vs.countP (findBucket bounds · == some c) := by
  induction vs with
  | nil => intro cs; exact (List.mapIdx_eq_iff.2 fun c => by simp).symm
  | cons v r ih =>
    intro cs
    rw [List.foldl_cons, ih, bucketStep_eq, List.mapIdx_mapIdx]
    congr 1
    funext c n
    simp only [Function.comp, List.countP_cons, beq_iff_eq]
    omega

theorem bucketStep_length (bounds : List UInt64) (cs : List Nat) (v : UInt64) :
    (bucketStep bounds cs v).length = cs.length := by
  rw [bucketStep_eq, List.length_mapIdx]

theorem foldl_bucketStep_length (bounds : List UInt64) (vs : List UInt64) :
    ∀ cs : List Nat, (vs.foldl (bucketStep bounds) cs).length = cs.length := by
  intro cs
  rw [foldl_bucketStep_eq, List.length_mapIdx]

/-- the cells of a fresh histogram after `vs`: nothing beyond the last bucket, since no value falls there -/
theorem observed_getD (bounds : List UInt64) (vs : List UInt64) (c : Nat) :
    (vs.foldl (bucketStep bounds) (List.replicate bounds.length 0))[c]?.getD 0 =
      vs.countP (findBucket bounds · == some c) := by
  rw [foldl_bucketStep_eq, List.getElem?_mapIdx]
  by_cases hc : c < bounds.length
  · simp [hc]
  · rw [List.getElem?_eq_none (by simpa using hc)]
    exact (List.countP_eq_zero.2 fun v _ hv => hc (findBucket_lt (beq_iff_eq.1 hv))).symm

theorem bucketStep_take_sum {bounds : List UInt64} (hs : StrictIncr bounds) {i : Nat} {b : UInt64}
    (hb : bounds[i]? = some b) (cs : List Nat) (hl : cs.length = bounds.length) (v : UInt64) :
    ((bucketStep bounds cs v).take (i + 1)).sum = (cs.take (i + 1)).sum + if f64Le v b then 1 else 0 := by
  unfold bucketStep
  rw [← findBucket_spec hs v hb]
  cases hf : findBucket bounds v with
  | none => rfl
  | some j =>
    have hj : j < cs.length := hl ▸ findBucket_lt hf
    simp only [bumpAt_eq_modify, List.take_modify, Option.any_some, decide_eq_true_eq]
    by_cases hji : j ≤ i
    · rw [sum_modify_add _ 1 (by simp; omega), if_pos hji]
    · rw [List.modify_eq_self (by simp; omega), if_neg hji]; rfl

theorem foldl_bucketStep_take_sum {bounds : List UInt64} (hs : StrictIncr bounds) {i : Nat} {b : UInt64}
    (hb : bounds[i]? = some b) (vs : List UInt64) : ∀ cs : List Nat, cs.length = bounds.length →
    ((vs.foldl (bucketStep bounds) cs).take (i + 1)).sum = (cs.take (i + 1)).sum + vs.countP (f64Le · b) := by
  induction vs with
  | nil => intro cs _; rfl
  | cons v r ih =>
    intro cs hl
    rw [List.foldl_cons, ih _ (by rw [bucketStep_length, hl]), bucketStep_take_sum hs hb cs hl, List.countP_cons]
    omega

end Prom.C08
