import Prom.Model.StaticFlush
/- The flattened struct tree of the local static metrics (C19). `C19.valueOf` (the value a field denotes) stands
   here so that `resolve_cons` and the closed form `resolve_eq` can speak of it; the leaf a field path reaches was
   created from the child `resolve` computes (`denotes_buildLeaves`); `inc` and `flush` keep `store c + pendingFor
   leaves c` in step with `delivered` (`run_conserves`); the flush moves every leaf's pending amount to its child
   (`flushStore_apply`, `zeroed_pending`). `buildLeaves_cons`, `flushStore_level`: the nesting behind the flat tree. -/
namespace Prom.C19

open Prom.SM in
/-- the value a field denotes at a level -/
def valueOf (l : LabelDef) (f : Str) : Option Str := (l.values.find? (·.1 == f)).map (·.2)

end Prom.C19

namespace Prom.SM

/-- sum of the pending amounts of the leaves (aliases!) created from child `c` -/
def pendingFor : List Leaf → Child → Nat
  | [], _ => 0
  | lf :: r, c => (if lf.child = c then lf.pending else 0) + pendingFor r c

/-- the struct of a level has one sub-struct per field, built with that field's value -/
theorem buildLeaves_cons (l : LabelDef) (ls : Decl) (prev : Child) :
    buildLeaves (l :: ls) prev = l.values.flatMap fun fv =>
      (buildLeaves ls (prev ++ [(l.key, fv.2)])).map fun lf => { lf with path := fv.1 :: lf.path } := rfl

theorem denotes_append (a b : List Leaf) (p : List Str) :
    denotes (a ++ b) p = (denotes a p).or (denotes b p) := by
  induction a with
  | nil => simp [denotes]
  | cons x r ih =>
    simp only [List.cons_append, denotes]
    split
    · simp
    · exact ih

theorem denotes_map_cons (g : Str) (leaves : List Leaf) (f : Str) (fs : List Str) :
    denotes (leaves.map fun lf => { lf with path := g :: lf.path }) (f :: fs)
      = if g = f then denotes leaves fs else none := by
  induction leaves with
  | nil => simp [denotes]
  | cons x r ih =>
    simp only [List.map_cons, denotes, List.cons.injEq]
    by_cases hg : g = f
    · simp only [hg, true_and, if_true] at ih ⊢
      rw [ih]
    · simp only [hg, false_and, if_false] at ih ⊢
      exact ih

theorem denotes_map_cons_nil (g : Str) (leaves : List Leaf) :
    denotes (leaves.map fun lf => { lf with path := g :: lf.path }) [] = none := by
  induction leaves with
  | nil => simp [denotes]
  | cons x r ih => simp [denotes, ih]

theorem resolve_cons (l : LabelDef) (ls : Decl) (prev : Child) (f : Str) (fs : List Str) :
    resolve (l :: ls) prev (f :: fs) =
      (C19.valueOf l f).bind fun v => resolve ls (prev ++ [(l.key, v)]) fs := by
  simp only [resolve, C19.valueOf]
  cases l.values.find? (·.1 == f) <;> rfl

/-- `resolve` in closed form: the values of the fields, level by level, all have to exist -/
theorem resolve_eq (d : Decl) (prev : Child) (path : List Str) :
    resolve d prev path = if d.length = path.length
      then ((List.zipWith C19.valueOf d path).mapM id).map fun vs => prev ++ (d.map (·.key)).zip vs else none := by
  induction d generalizing prev path with
  | nil => cases path <;> simp [resolve]
  | cons l ls ih =>
    cases path with
    | nil => simp [resolve]
    | cons f fs =>
      rw [resolve_cons]
      cases hv : C19.valueOf l f with
      | none => simp [hv]
      | some v =>
        simp only [Option.bind_some, ih, List.length_cons, Nat.add_right_cancel_iff, List.zipWith_cons_cons,
          List.mapM_cons, hv]
        split
        · cases (List.zipWith C19.valueOf ls fs).mapM id <;> simp
        · rfl

/-- whether a path resolves does not depend on `prev` -/
theorem resolve_none_prev (d : Decl) (prev prev' : Child) (p : List Str)
    (h : resolve d prev p = none) : resolve d prev' p = none := by
  rw [resolve_eq] at h ⊢
  split at h
  · rw [if_pos ‹_›]; rw [Option.map_eq_none_iff] at h ⊢; exact h
  · rw [if_neg ‹_›]

theorem denotes_buildLeaves (d : Decl) (prev : Child) (p : List Str) :
    denotes (buildLeaves d prev) p = resolve d prev p := by
  induction d generalizing prev p with
  | nil => cases p <;> simp [buildLeaves, denotes, resolve]
  | cons l ls ih =>
    cases p with
    | nil =>
      simp only [buildLeaves_cons, resolve]
      generalize l.values = vs
      induction vs with
      | nil => simp [denotes]
      | cons fv rest ihv =>
        rw [List.flatMap_cons, denotes_append, denotes_map_cons_nil, ihv]; rfl
    | cons f fs =>
      simp only [buildLeaves_cons, resolve]
      generalize l.values = vs
      induction vs with
      | nil => simp [denotes]
      | cons fv rest ihv =>
        obtain ⟨g, v⟩ := fv
        rw [List.flatMap_cons, denotes_append, denotes_map_cons, ihv, List.find?_cons]
        by_cases hg : g = f
        · subst hg
          simp only [if_true, beq_self_eq_true, ih]
          cases hr : resolve ls (prev ++ [(l.key, v)]) fs with
          | some c => simp
          | none =>
            simp only [Option.none_or]
            cases hf : rest.find? (·.1 == g) with
            | none => rfl
            | some q =>
              -- a later field of the same name resolves to nothing either
              exact resolve_none_prev _ _ _ _ hr
        · have hb : (g == f) = false := by simp [hg]
          simp only [hg, if_false, hb, Option.none_or]

theorem buildLeaves_paths (d : Decl) (prev : Child) :
    (buildLeaves d prev).map (·.path) = allPaths d := by
  induction d generalizing prev with
  | nil => rfl
  | cons l ls ih =>
    simp only [buildLeaves_cons, allPaths, List.map_flatMap, List.map_map]
    congr 1
    funext fv
    rw [← ih (prev ++ [(l.key, fv.2)]), List.map_map]
    rfl

theorem buildLeaves_pending (d : Decl) (prev : Child) : ∀ lf ∈ buildLeaves d prev, lf.pending = 0 := by
  induction d generalizing prev with
  | nil => intro lf h; simp [buildLeaves] at h; subst h; rfl
  | cons l ls ih =>
    intro lf h
    simp only [buildLeaves_cons, List.mem_flatMap, List.mem_map] at h
    obtain ⟨fv, _, lf', hm, rfl⟩ := h
    exact ih _ lf' hm

theorem pendingFor_zero (leaves : List Leaf) (c : Child) (h : ∀ lf ∈ leaves, lf.pending = 0) :
    pendingFor leaves c = 0 := by
  induction leaves with
  | nil => rfl
  | cons x r ih =>
    have hx := h x (by simp)
    have hr := ih (fun lf hl => h lf (by simp [hl]))
    simp only [pendingFor, hx, hr]
    split <;> rfl

theorem flushStore_apply (st : Child → Nat) (leaves : List Leaf) (c : Child) :
    flushStore st leaves c = st c + pendingFor leaves c := by
  induction leaves generalizing st with
  | nil => simp [flushStore, pendingFor]
  | cons x r ih =>
    have := ih (addTo st x.child x.pending)
    simp only [flushStore, List.foldl_cons, pendingFor] at this ⊢
    rw [this]
    unfold addTo
    split <;> omega

theorem denotes_bump (leaves : List Leaf) (q : List Str) (n : Nat) (p : List Str) :
    denotes (bump leaves q n) p = denotes leaves p := by
  induction leaves with
  | nil => rfl
  | cons x r ih =>
    simp only [bump]
    split
    · simp only [denotes]
    · simp only [denotes, ih]

theorem pendingFor_bump (leaves : List Leaf) (p : List Str) (n : Nat) (c : Child) :
    pendingFor (bump leaves p n) c = pendingFor leaves c + (if denotes leaves p = some c then n else 0) := by
  induction leaves with
  | nil => simp [bump, pendingFor, denotes]
  | cons x r ih =>
    simp only [bump, denotes]
    by_cases hp : x.path = p
    · simp only [hp, if_true, pendingFor, Option.some.injEq]
      by_cases hc : x.child = c
      · simp only [hc, if_true]; omega
      · simp only [hc, if_false]; omega
    · simp only [hp, if_false, pendingFor, ih]; omega

theorem denotes_zeroed (leaves : List Leaf) (p : List Str) :
    denotes (leaves.map fun lf => { lf with pending := 0 }) p = denotes leaves p := by
  induction leaves with
  | nil => rfl
  | cons x r ih => simp only [List.map_cons, denotes, ih]

theorem zeroed_pending (leaves : List Leaf) :
    ∀ lf ∈ (leaves.map fun lf : Leaf => { lf with pending := 0 }), lf.pending = 0 := by
  intro lf h
  obtain ⟨lf', _, rfl⟩ := List.mem_map.1 h
  rfl

theorem step_conserves (d : Decl) (t : LocalTree) (op : TOp) (c : Child)
    (hd : ∀ p, denotes t.leaves p = resolve d [] p) :
    (∀ p, denotes (t.step op).leaves p = resolve d [] p) ∧
    (t.step op).store c + pendingFor (t.step op).leaves c
      = t.store c + pendingFor t.leaves c + delivered d c [op] := by
  cases op with
  | inc p n =>
    refine ⟨fun q => ?_, ?_⟩
    · simp only [LocalTree.step, LocalTree.incBy, denotes_bump, hd]
    · simp only [LocalTree.step, LocalTree.incBy, pendingFor_bump, hd, delivered]; omega
  | flush =>
    refine ⟨fun q => ?_, ?_⟩
    · simp only [LocalTree.step, LocalTree.flush, denotes_zeroed, hd]
    · simp only [LocalTree.step, LocalTree.flush, flushStore_apply, delivered,
        pendingFor_zero _ c (zeroed_pending t.leaves)]

theorem delivered_cons (d : Decl) (c : Child) (op : TOp) (ops : List TOp) :
    delivered d c (op :: ops) = delivered d c [op] + delivered d c ops := by
  cases op <;> simp [delivered]

theorem run_conserves (d : Decl) (ops : List TOp) (t : LocalTree) (c : Child)
    (hd : ∀ p, denotes t.leaves p = resolve d [] p) :
    (t.run ops).store c + pendingFor (t.run ops).leaves c
      = t.store c + pendingFor t.leaves c + delivered d c ops := by
  induction ops generalizing t with
  | nil => simp [LocalTree.run, delivered]
  | cons op r ih =>
    obtain ⟨h1, h2⟩ := step_conserves d t op c hd
    have : t.run (op :: r) = (t.step op).run r := rfl
    rw [this, ih (t.step op) h1, h2, delivered_cons d c op r]; omega

/-- the flush of a level is the flushes of ALL its fields' sub-structs, in declaration order
    (`#(self.#names.flush();)*`) -/
theorem flushStore_level (st : Child → Nat) (l : LabelDef) (ls : Decl) (prev : Child) :
    flushStore st (buildLeaves (l :: ls) prev)
      = l.values.foldl (fun st fv => flushStore st
          ((buildLeaves ls (prev ++ [(l.key, fv.2)])).map fun lf => { lf with path := fv.1 :: lf.path })) st := by
  simp only [buildLeaves_cons, flushStore, List.foldl_flatMap]

end Prom.SM
