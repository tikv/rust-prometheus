import Prom.Lemmas.VecMachine
import Prom.Lemmas.OpLit
/-
Runs of the vector machine (`VRun`, `VReach`) and the example traces of `Props/C10.lean`, run by `simp` with the
definitions of the machine and what the head of `Lemmas/OpLit.lean` lists; the common beginnings are run once, over
variables for what takes no part (`with_run6`, `rm_run9`, `reset_run9` …).
-/
namespace Prom.C10
open Prom.Conc Prom.RT

/-- the initial state of a program; `VReach.init` below spells it out (fixed text), `runItems_vReach` passes between
    the two by unfolding -/
def vInit (prog : List (List String)) : VSt := { ths := prog.map fun ops => { ops := ops } }

/-- `VRun s s'`: `s'` is reached from `s` by accepting items (a continuation of a run) -/
inductive VRun (s0 : VSt) : VSt → Prop
  | init : VRun s0 s0
  | step {s s' it} : VRun s0 s → vItem s it = .ok s' → VRun s0 s'

theorem vRun_iff_run {s s' : VSt} : VRun s s' ↔ Run vReplay.item s s' :=
  ⟨fun h => by induction h with | init => exact .init | step _ hs ih => exact .step ih hs,
   fun h => by induction h with | init => exact .init | step _ hs ih => exact .step ih hs⟩

theorem vRun_th_pres {s s' : VSt} (h : VRun s s') {t : Nat} {th : Th VPc} (hth : s.ths[t]? = some th) :
    ∃ th', s'.ths[t]? = some th' ∧ th'.ops = th.ops ∧ th.idx ≤ th'.idx :=
  vReplay.run_th_pres (vRun_iff_run.1 h) hth

/-- the entries appended in a continuation belong to calls that had not returned in `s` -/
theorem vRun_new_entries {s s' : VSt} (h : VRun s s') :
    ∃ ext, s'.lin = s.lin ++ ext ∧ ∀ x ∈ ext, ∃ th, s.ths[x.tid]? = some th ∧ th.idx ≤ x.idx :=
  vReplay.run_new_entries (vRun_iff_run.1 h)

/-- states reachable by accepting items of a real trace: any number of threads, any programs
    (`with`, `remove`, `reset`, `collect`, updates through handles), any interleaving of their
    critical sections -/
inductive VReach (prog : List (List String)) : VSt → Prop
  | init : VReach prog { ths := prog.map fun ops => { ops := ops } }
  | step {s s' it} : VReach prog s → vItem s it = .ok s' → VReach prog s'

theorem runItems_vReach {prog : List (List String)} {tr : List Item} {s : VSt}
    (h : runItems vItem (vInit prog) tr 0 = .ok s) : VReach prog s := by
  have hr : Run vItem (vInit prog) s := .of_runItems h
  clear h
  induction hr with
  | init => exact .init
  | step _ hs ih => exact .step ih hs

/-- thread 0: `with(a)` (miss under the read lock, get-or-create under the write lock), returns; the
    update through the returned handle as sub-call `0u`. Then thread 1: `reset`, returns. -/
def subcallTrace : List Item :=
  [.call 0 "0" "with:a",
   .ev ⟨0, "R", "lk", "", 0, 0, 0, true⟩, .ev ⟨0, "r", "lk", "", 0, 0, 0, true⟩,
   .ev ⟨0, "X", "lk", "", 0, 0, 0, true⟩, .ev ⟨0, "x", "lk", "", 0, 0, 0, true⟩,
   .ret 0 "0" "h",
   .call 0 "0u" "inc", .ev ⟨0, "A", "c0", "Relaxed", 1, 0, 0, true⟩, .ret 0 "0u" "",
   .call 1 "0" "reset",
   .ev ⟨1, "X", "lk", "", 0, 0, 0, true⟩, .ev ⟨1, "x", "lk", "", 0, 0, 0, true⟩,
   .ret 1 "0" ""]

/-- one thread, `rm:a` on the empty vector: the key is looked up under the READ lock, it is absent, the
    call returns "err" - no write lock is taken -/
def rmAbsentTrace : List Item :=
  [.call 0 "0" "rm:a",
   .ev ⟨0, "R", "lk", "", 0, 0, 0, true⟩, .ev ⟨0, "r", "lk", "", 0, 0, 0, true⟩,
   .ret 0 "0" "err"]

/-- one thread: `with:a` (miss under the read lock, get-or-create under the write lock); then `rm:a`:
    the read-locked lookup finds the key, the read lock is released, the key is removed under the write
    lock, the call returns "ok" -/
def rmPresentTrace : List Item :=
  [.call 0 "0" "with:a",
   .ev ⟨0, "R", "lk", "", 0, 0, 0, true⟩, .ev ⟨0, "r", "lk", "", 0, 0, 0, true⟩,
   .ev ⟨0, "X", "lk", "", 0, 0, 0, true⟩, .ev ⟨0, "x", "lk", "", 0, 0, 0, true⟩,
   .ret 0 "0" "h",
   .call 0 "1" "rm:a",
   .ev ⟨0, "R", "lk", "", 0, 0, 0, true⟩, .ev ⟨0, "r", "lk", "", 0, 0, 0, true⟩,
   .ev ⟨0, "X", "lk", "", 0, 0, 0, true⟩, .ev ⟨0, "x", "lk", "", 0, 0, 0, true⟩,
   .ret 0 "1" "ok"]

/-- thread 0 as in `rmPresentTrace`, but thread 1 runs `reset` in the gap between thread 0's read-locked
    lookup (key present) and its write-locked remove: the write-locked remove decides, the call returns
    "err" -/
def rmGapTrace : List Item :=
  [.call 0 "0" "with:a",
   .ev ⟨0, "R", "lk", "", 0, 0, 0, true⟩, .ev ⟨0, "r", "lk", "", 0, 0, 0, true⟩,
   .ev ⟨0, "X", "lk", "", 0, 0, 0, true⟩, .ev ⟨0, "x", "lk", "", 0, 0, 0, true⟩,
   .ret 0 "0" "h",
   .call 0 "1" "rm:a",
   .ev ⟨0, "R", "lk", "", 0, 0, 0, true⟩, .ev ⟨0, "r", "lk", "", 0, 0, 0, true⟩,
   .call 1 "0" "reset",
   .ev ⟨1, "X", "lk", "", 0, 0, 0, true⟩, .ev ⟨1, "x", "lk", "", 0, 0, 0, true⟩,
   .ret 1 "0" "",
   .ev ⟨0, "X", "lk", "", 0, 0, 0, true⟩, .ev ⟨0, "x", "lk", "", 0, 0, 0, true⟩,
   .ret 0 "1" "err"]

/-- one thread, `reset` on the empty vector: the map is inspected under the READ lock, it is empty, the
    call returns - no write lock is taken -/
def resetEmptyTrace : List Item :=
  [.call 0 "0" "reset",
   .ev ⟨0, "R", "lk", "", 0, 0, 0, true⟩, .ev ⟨0, "r", "lk", "", 0, 0, 0, true⟩,
   .ret 0 "0" ""]

/-- one thread: `with:a` (miss under the read lock, get-or-create under the write lock); then `reset`:
    the read-locked check finds the map non-empty, the read lock is released, the map is cleared under
    the write lock, the call returns -/
def resetNonEmptyTrace : List Item :=
  [.call 0 "0" "with:a",
   .ev ⟨0, "R", "lk", "", 0, 0, 0, true⟩, .ev ⟨0, "r", "lk", "", 0, 0, 0, true⟩,
   .ev ⟨0, "X", "lk", "", 0, 0, 0, true⟩, .ev ⟨0, "x", "lk", "", 0, 0, 0, true⟩,
   .ret 0 "0" "h",
   .call 0 "1" "reset",
   .ev ⟨0, "R", "lk", "", 0, 0, 0, true⟩, .ev ⟨0, "r", "lk", "", 0, 0, 0, true⟩,
   .ev ⟨0, "X", "lk", "", 0, 0, 0, true⟩, .ev ⟨0, "x", "lk", "", 0, 0, 0, true⟩,
   .ret 0 "1" ""]

/-- thread 0 as in `resetNonEmptyTrace`, but thread 1 runs `with:b` in the gap between thread 0's
    read-locked check (map non-empty) and its write-locked section: the reset clears whatever the map
    holds when the write lock is taken - both children -/
def resetGapTrace : List Item :=
  [.call 0 "0" "with:a",
   .ev ⟨0, "R", "lk", "", 0, 0, 0, true⟩, .ev ⟨0, "r", "lk", "", 0, 0, 0, true⟩,
   .ev ⟨0, "X", "lk", "", 0, 0, 0, true⟩, .ev ⟨0, "x", "lk", "", 0, 0, 0, true⟩,
   .ret 0 "0" "h",
   .call 0 "1" "reset",
   .ev ⟨0, "R", "lk", "", 0, 0, 0, true⟩, .ev ⟨0, "r", "lk", "", 0, 0, 0, true⟩,
   .call 1 "0" "with:b",
   .ev ⟨1, "R", "lk", "", 0, 0, 0, true⟩, .ev ⟨1, "r", "lk", "", 0, 0, 0, true⟩,
   .ev ⟨1, "X", "lk", "", 0, 0, 0, true⟩, .ev ⟨1, "x", "lk", "", 0, 0, 0, true⟩,
   .ret 1 "0" "h",
   .ev ⟨0, "X", "lk", "", 0, 0, 0, true⟩, .ev ⟨0, "x", "lk", "", 0, 0, 0, true⟩,
   .ret 0 "1" ""]

/-- NOT accepted: as `resetNonEmptyTrace`, but the `reset` returns right after its read-locked check
    although the map was not empty (the write-locked section is skipped) -/
def resetSkippedTrace : List Item :=
  [.call 0 "0" "with:a",
   .ev ⟨0, "R", "lk", "", 0, 0, 0, true⟩, .ev ⟨0, "r", "lk", "", 0, 0, 0, true⟩,
   .ev ⟨0, "X", "lk", "", 0, 0, 0, true⟩, .ev ⟨0, "x", "lk", "", 0, 0, 0, true⟩,
   .ret 0 "0" "h",
   .call 0 "1" "reset",
   .ev ⟨0, "R", "lk", "", 0, 0, 0, true⟩, .ev ⟨0, "r", "lk", "", 0, 0, 0, true⟩,
   .ret 0 "1" ""]

/-- one thread: `with:a` (miss under the read lock, get-or-create under the write lock), then the update
    through the returned handle (sub-call `0u`) written as a loop: a Relaxed load of the child's cell (0) and a
    successful Relaxed compare-exchange 0 -> 1 -/
def casIncTrace : List Item :=
  [.call 0 "0" "with:a",
   .ev ⟨0, "R", "lk", "", 0, 0, 0, true⟩, .ev ⟨0, "r", "lk", "", 0, 0, 0, true⟩,
   .ev ⟨0, "X", "lk", "", 0, 0, 0, true⟩, .ev ⟨0, "x", "lk", "", 0, 0, 0, true⟩,
   .ret 0 "0" "h",
   .call 0 "0u" "inc",
   .ev ⟨0, "L", "c0", "Relaxed", 0, 0, 0, true⟩, .ev ⟨0, "C", "c0", "Relaxed", 0, 1, 0, true⟩,
   .ret 0 "0u" ""]

/-- the common beginning of the two-thread runs: thread 0 creates the child of `a` (miss, write lock), thread 1
    finds it under the read lock; both open their update sub-call and both LOAD 0 from the child's cell; thread 1's
    compare-exchange 0 -> 1 succeeds and its sub-call returns; thread 0's compare-exchange 0 -> 1 then FAILS and
    reports the value it found, 1 -/
def casIncRacePrefix : List Item :=
  [.call 0 "0" "with:a",
   .ev ⟨0, "R", "lk", "", 0, 0, 0, true⟩, .ev ⟨0, "r", "lk", "", 0, 0, 0, true⟩,
   .ev ⟨0, "X", "lk", "", 0, 0, 0, true⟩, .ev ⟨0, "x", "lk", "", 0, 0, 0, true⟩,
   .ret 0 "0" "h",
   .call 1 "0" "with:a",
   .ev ⟨1, "R", "lk", "", 0, 0, 0, true⟩, .ev ⟨1, "r", "lk", "", 0, 0, 0, true⟩,
   .ret 1 "0" "h",
   .call 0 "0u" "inc",
   .ev ⟨0, "L", "c0", "Relaxed", 0, 0, 0, true⟩,
   .call 1 "0u" "inc",
   .ev ⟨1, "L", "c0", "Relaxed", 0, 0, 0, true⟩, .ev ⟨1, "C", "c0", "Relaxed", 0, 1, 0, true⟩,
   .ret 1 "0u" "",
   .ev ⟨0, "C", "c0", "Relaxed", 0, 1, 1, false⟩]

/-- two threads increment the same child; thread 0's first exchange fails and the loop goes on AT ONCE with the
    value the failed exchange reported: compare-exchange 1 -> 2 succeeds -/
def casIncRetryTrace : List Item :=
  casIncRacePrefix ++ [.ev ⟨0, "C", "c0", "Relaxed", 1, 2, 1, true⟩, .ret 0 "0u" ""]

/-- as `casIncRetryTrace`, but after the failed exchange the loop LOADS AGAIN (1) before the exchange 1 -> 2 -/
def casIncReloadTrace : List Item :=
  casIncRacePrefix ++ [.ev ⟨0, "L", "c0", "SeqCst", 0, 0, 1, true⟩, .ev ⟨0, "C", "c0", "AcqRel", 1, 2, 1, true⟩, .ret 0 "0u" ""]

/-- NOT accepted (a lost update): as `casIncRacePrefix`, but thread 0's exchange 0 -> 1 claims SUCCESS although
    the child holds 1 by then -/
def casIncStaleTrace : List Item :=
  casIncRacePrefix.take 16 ++ [.ev ⟨0, "C", "c0", "Relaxed", 0, 1, 0, true⟩, .ret 0 "0u" ""]

/-- NOT accepted: the uncontended loop of `casIncTrace`, but the exchange installs 2 instead of 0 + 1 -/
def casIncWrongNewTrace : List Item :=
  casIncTrace.take 8 ++ [.ev ⟨0, "C", "c0", "Relaxed", 0, 2, 0, true⟩, .ret 0 "0u" ""]

/-- NOT accepted: as `casIncRacePrefix`, but thread 0's failed exchange reports 0 although the child holds 1 -/
def casIncWrongReportTrace : List Item :=
  casIncRacePrefix.take 16 ++ [.ev ⟨0, "C", "c0", "Relaxed", 0, 1, 0, false⟩]

/-- the state after thread 0's `with:a` on an empty vector (miss under the read lock, get-or-create under the write
    lock, return), whatever its further program `ops` and whatever other threads `rest` (which take no step) -/
def withS6 (ops : List String) (rest : List (Th VPc)) : VSt :=
  { ths := { ops := "with:a" :: ops, idx := 1 } :: rest, spec := { map := [("a", 0)], vals := [0] },
    handle := [(0, 0)], lin := [⟨0, 0, .getOrCreate "a", .child 0⟩] }

/-- the first six items of `casIncTrace` are, literally, the first six of every trace here that starts with `with:a`
    (`rmPresentTrace`, `resetNonEmptyTrace`, `subcallTrace`, `rmGapTrace` …): the users pass their own trace by
    `runItems_of_take (tr := …)`, which type-checks only because the literal prefixes are definitionally equal -/
theorem with_run6 (ops : List String) (rest : List (Th VPc)) :
    runItems vItem { ths := { ops := "with:a" :: ops } :: rest } (casIncTrace.take 6) 0 = .ok (withS6 ops rest) := by
  simp [runItems, casIncTrace, withS6, vItem, vStep, vEff, setHandle, Conc.guard, openCall, closeCall, repr_0,
    opName_with_a, opArg_with_a, endsWith_0, VSpec.lookup, VSpec.apply, -getElem?_pos, List.getElem?_cons_zero]

/-- the state after the first 8 items of `casIncTrace`: the child of `a` exists and holds 0, thread 0 has loaded 0 -/
def casIncS8 : VSt :=
  { ths := [{ ops := ["with:a"], idx := 1, pc := some (.incCas 0 0) }], spec := { map := [("a", 0)], vals := [0] },
    binding := [("c0", 0)], handle := [(0, 0)], lin := [⟨0, 0, .getOrCreate "a", .child 0⟩] }

theorem casInc_run8 : runItems vItem (vInit [["with:a"]]) (casIncTrace.take 8) 0 = .ok casIncS8 := by
  refine (runItems_of_take (tr := casIncTrace.take 8) 6 (with_run6 [] []) 6).trans ?_
  simp [runItems, casIncTrace, casIncS8, withS6, vItem, vStep, vIncLoad, bindChild, Conc.guard, ordGe_self,
    -getElem?_pos, List.getElem?_cons_zero]

/-- the state after the first 16 items of `casIncRacePrefix`: both threads hold a handle to child 0, thread 1's
    increment is committed, thread 0 has loaded 0 -/
def casRaceS16 : VSt :=
  { ths := [{ ops := ["with:a"], idx := 1, pc := some (.incCas 0 0) }, { ops := ["with:a"], idx := 1 }],
    spec := { map := [("a", 0)], vals := [1] }, binding := [("c0", 0)], handle := [(1, 0), (0, 0)],
    lin := [⟨0, 0, .getOrCreate "a", .child 0⟩, ⟨1, 0, .getOrCreate "a", .child 0⟩, ⟨1, 1, .inc 0, .unit⟩] }

theorem casRace_run16 :
    runItems vItem (vInit [["with:a"], ["with:a"]]) (casIncRacePrefix.take 16) 0 = .ok casRaceS16 := by
  refine (runItems_of_take (tr := casIncRacePrefix.take 16) 6 (with_run6 [] [{ ops := ["with:a"] }]) 6).trans ?_
  simp [runItems, casIncRacePrefix, casRaceS16, withS6, vItem, vStep, vIncLoad, vIncCas, bindChild, vEff, setHandle,
    Conc.guard, openCall, closeCall, repr_0, ordGe_self, opName_with_a, opArg_with_a, endsWith_0u, endsWith_0,
    VSpec.lookup, VSpec.apply, -getElem?_pos, List.getElem?_cons_zero, List.getElem?_cons_succ]

/-- the state after the first 9 items of `resetNonEmptyTrace`, whatever other threads (`rest`, which take no step)
    there are: the child of `a` exists, the `reset` has made its read-locked check and expects the write lock -/
def resetS9 (rest : List (Th VPc)) : VSt :=
  { ths := { ops := ["with:a", "reset"], idx := 1, pc := some (.rmNeedW "reset") } :: rest,
    spec := { map := [("a", 0)], vals := [0] }, handle := [(0, 0)], lin := [⟨0, 0, .getOrCreate "a", .child 0⟩] }

theorem reset_run9 (rest : List (Th VPc)) :
    runItems vItem { ths := { ops := ["with:a", "reset"] } :: rest } (resetNonEmptyTrace.take 9) 0 =
      .ok (resetS9 rest) := by
  rw [runItems_of_take (tr := resetNonEmptyTrace.take 9) 6 (with_run6 _ _) 6]
  simp [runItems, resetNonEmptyTrace, resetS9, withS6, vItem, vStep, Conc.guard, openCall, repr_1, opName_reset,
    -getElem?_pos, List.getElem?_cons_zero, List.getElem?_cons_succ]

/-- the state after the first 9 items of `rmPresentTrace`, whatever other threads (`rest`, which take no step) there
    are: the child of `a` exists, the `rm` has found the key under the read lock and expects the write lock -/
def rmS9 (rest : List (Th VPc)) : VSt :=
  { ths := { ops := ["with:a", "rm:a"], idx := 1, pc := some (.rmNeedW "rm:a") } :: rest,
    spec := { map := [("a", 0)], vals := [0] }, handle := [(0, 0)], lin := [⟨0, 0, .getOrCreate "a", .child 0⟩] }

theorem rm_run9 (rest : List (Th VPc)) :
    runItems vItem { ths := { ops := ["with:a", "rm:a"] } :: rest } (rmPresentTrace.take 9) 0 = .ok (rmS9 rest) := by
  rw [runItems_of_take (tr := rmPresentTrace.take 9) 6 (with_run6 _ _) 6]
  simp [runItems, rmPresentTrace, rmS9, withS6, vItem, vStep, Conc.guard, openCall, repr_1, opName_rm_a, opArg_rm_a,
    VSpec.lookup, -getElem?_pos, List.getElem?_cons_zero, List.getElem?_cons_succ]

end Prom.C10
