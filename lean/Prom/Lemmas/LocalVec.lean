import Prom.Model.Local
import Prom.Lemmas.Vec
/- C12, local vectors: the operations `VOpL` / `VW.step` on a shared vector with local handles, the ghost
   quantities as functions of the history, well-formedness `VWf`; amounts are measured through a selector
   `sel` on child ids (`held_all`: `fun _ => true` gives the totals, `held_single`: `(· == id)` one child).
   Then `Adds`, what every operation does to the shared vector; the four shapes of one cache; the world
   lemmas `set_facts` / `append_facts` / `shared_facts`; `step_facts`: one step keeps `VWf` and the balance. -/
namespace Prom

/-- operations on a shared vector with any number of local handles (handles are list positions) -/
inductive VOpL
  | lwith (h : Nat) (vals : List Str) (d : Nat)   -- local.with_label_values(vals).inc_by(d)
  | lflush (h : Nat)
  | lremove (h : Nat) (vals : List Str)           -- local.remove_label_values(vals)
  | lclone (h : Nat)
  | ldrop (h : Nat)
  | lnew                                          -- vec.local()
  | swith (vals : List Str) (d : Nat)             -- direct update through the shared vector
  | sremove (vals : List Str)                     -- vec.remove_label_values(vals)
  | sreset                                        -- vec.reset()
deriving Repr

/-- one step; a panicking `lwith` (wrong cardinality / child build error) leaves the state as it was -/
def VW.step (w : VW) : VOpL → VW
  | .lwith h vals d => (w.lwith h vals d).getD w
  | .lflush h => w.lflush h
  | .lremove h vals => (w.lremove h vals).1
  | .lclone h => w.lclone h
  | .ldrop h => w.ldrop h
  | .lnew => { w with locals := w.locals ++ [some {}] }
  | .swith vals d =>
    match withLabelValues w.v vals with
    | (v', .ok id) => { w with v := v'.bump id d }
    | (v', .error _) => { w with v := v' }
  | .sremove vals => { w with v := (removeLabelValues w.v vals).1 }
  | .sreset => { w with v := w.v.reset }

/-- the child id on which `lwith h vals d` books its amount (`none`: dropped/unknown handle, or panic). The same
    case split as `VW.lwith` (Model/Local): `some id` exactly where a live handle's `lwith` succeeds, as `step_facts`
    sees case by case. -/
def VW.lwithTarget (w : VW) (h : Nat) (vals : List Str) : Option Nat :=
  match w.locals[h]? with
  | some (some lv) =>
    match hashLabelValues w.v vals with
    | .error _ => none
    | .ok k =>
      match cacheFind lv.cache k with
      | some (id, _) => some id
      | none =>
        match getOrCreate w.v k vals with
        | (_, .ok id) => some id
        | (_, .error _) => none
  | _ => none

def pick (b : Bool) (x : Nat) : Nat := if b then x else 0

/-- ghost: the amount operation `op` puts into the system in state `w`, as far as it is booked on a
    selected child.  An `lwith` on a dropped or non-existent handle, or one that panics, puts in
    nothing (and changes nothing). -/
def VW.input (sel : Nat → Bool) (w : VW) : VOpL → Nat
  | .lwith h vals d =>
    match w.lwithTarget h vals with
    | some id => pick (sel id) d
    | none => 0
  | .swith vals d =>
    match (withLabelValues w.v vals).2 with
    | .ok id => pick (sel id) d
    | .error _ => 0
  | _ => 0

/-- value held by the stored children with a selected id (`off` = id of the first list element) -/
def wsum (sel : Nat → Bool) : Nat → List Child → Nat
  | _, [] => 0
  | off, c :: r => pick (sel off) c.val + wsum sel (off + 1) r

/-- value held by all selected children EVER created (attached or detached) -/
def storeHeld (sel : Nat → Bool) (v : MVec) : Nat := wsum sel 0 v.store

def cacheHeld (sel : Nat → Bool) (c : List (UInt64 × Nat × Nat)) : Nat :=
  (c.map fun e => pick (sel e.2.1) e.2.2).sum

def optHeld (sel : Nat → Bool) : Option LVec → Nat
  | some lv => cacheHeld sel lv.cache
  | none => 0

def localsHeld (sel : Nat → Bool) (ls : List (Option LVec)) : Nat := (ls.map (optHeld sel)).sum

/-- everything the system holds: children ever created + pending in live local caches -/
def VW.held (sel : Nat → Bool) (w : VW) : Nat := storeHeld sel w.v + localsHeld sel w.locals

/-- pending amount of one handle, whatever the child: `optHeld (fun _ => true)` (`held_all`) -/
def optPending : Option LVec → Nat
  | some lv => (lv.cache.map (·.2.2)).sum
  | none => 0

def MVec.storeTotal (v : MVec) : Nat := (v.store.map (·.val)).sum

def pendingTotal (ls : List (Option LVec)) : Nat := (ls.map optPending).sum

/-- ghost: the amount operation `op` deliberately throws away in state `w`.  Counter flavour
    (`flushOnDrop = false`): a dropped local discards all it has pending, `lremove` discards the
    pending amount of the cached entry of that key.  Histogram flavour: nothing, ever. -/
def VW.discards (sel : Nat → Bool) (w : VW) : VOpL → Nat
  | .ldrop h =>
    if w.flushOnDrop then 0 else
    match w.locals[h]? with
    | some (some lv) => cacheHeld sel lv.cache
    | _ => 0
  | .lremove h vals =>
    if w.flushOnDrop then 0 else
    match w.locals[h]? with
    | some (some lv) =>
      match hashLabelValues w.v vals with
      | .error _ => 0
      | .ok k =>
        match cacheFind lv.cache k with
        | some (id, p) => pick (sel id) p
        | none => 0
    | _ => 0
  | _ => 0

def VW.totalIn (sel : Nat → Bool) (w : VW) : List VOpL → Nat
  | [] => 0
  | op :: r => w.input sel op + (w.step op).totalIn sel r

def VW.totalDiscarded (sel : Nat → Bool) (w : VW) : List VOpL → Nat
  | [] => 0
  | op :: r => w.discards sel op + (w.step op).totalDiscarded sel r

/-- a cache is in order: keys pairwise distinct, every cached child id exists (`n` = store size) -/
def CacheOk (n : Nat) (c : List (UInt64 × Nat × Nat)) : Prop :=
  (c.map (·.1)).Nodup ∧ ∀ e ∈ c, e.2.1 < n

/-- well-formedness: every id in the key map and in every live cache denotes a stored child; cache
    keys are distinct.  (Without it `MVec.bump` on an unknown id would silently lose the amount.) -/
def VWf (w : VW) : Prop :=
  (∀ p ∈ w.v.children, p.2 < w.v.store.length) ∧
  ∀ lv, some lv ∈ w.locals → CacheOk w.v.store.length lv.cache

def VW.fresh (names : List Str) (consts : List LabelPair) (buildFails flushOnDrop : Bool) : VW :=
  { v := { names, consts, buildFails, children := [], store := [] }, locals := [], flushOnDrop }

theorem CacheOk.mono {n m : Nat} {c} (h : CacheOk n c) (hnm : n ≤ m) : CacheOk m c :=
  ⟨h.1, fun e he => Nat.lt_of_lt_of_le (h.2 e he) hnm⟩

theorem VWf.cache {w : VW} (hw : VWf w) {h : Nat} {lv : LVec} (hl : w.locals[h]? = some (some lv)) :
    CacheOk w.v.store.length lv.cache :=
  hw.2 lv (List.mem_of_getElem? hl)

end Prom

namespace Prom.C12

@[simp] theorem pick_zero (b : Bool) : pick b 0 = 0 := by unfold pick; split <;> rfl
theorem pick_add (b : Bool) (x y : Nat) : pick b (x + y) = pick b x + pick b y := by
  unfold pick; split <;> simp
@[simp] theorem pick_true (x : Nat) : pick true x = x := rfl
@[simp] theorem pick_false (x : Nat) : pick false x = 0 := rfl

theorem wsum_append (sel : Nat → Bool) (off : Nat) (l r : List Child) :
    wsum sel off (l ++ r) = wsum sel off l + wsum sel (off + l.length) r := by
  induction l generalizing off with
  | nil => simp [wsum]
  | cons c t ih =>
    simp only [List.cons_append, wsum, ih, List.length_cons]
    have : off + 1 + t.length = off + (t.length + 1) := by omega
    rw [this]; omega

theorem wsum_modify (sel : Nat → Bool) (off : Nat) (l : List Child) (i d : Nat) (hi : i < l.length) :
    wsum sel off (l.modify i (fun c => { c with val := c.val + d })) = wsum sel off l + pick (sel (off + i)) d := by
  induction l generalizing off i with
  | nil => simp at hi
  | cons c t ih =>
    cases i with
    | zero =>
      simp only [List.modify_zero_cons, wsum, pick_add, Nat.add_zero]
      omega
    | succ i =>
      simp only [List.length_cons, Nat.add_lt_add_iff_right] at hi
      simp only [List.modify_succ_cons, wsum, ih (off + 1) i hi]
      have : off + 1 + i = off + (i + 1) := by omega
      rw [this]; omega

theorem wsum_eq_zero (sel : Nat → Bool) (off : Nat) (l : List Child) (h : ∀ i, off ≤ i → sel i = false) :
    wsum sel off l = 0 := by
  induction l generalizing off with
  | nil => rfl
  | cons c t ih =>
    simp only [wsum, h off (Nat.le_refl _), pick_false, Nat.zero_add]
    exact ih (off + 1) (fun i hi => h i (by omega))

theorem wsum_single (off j : Nat) (l : List Child) :
    wsum (fun i => i == off + j) off l = ((l[j]?).map (·.val)).getD 0 := by
  induction l generalizing off j with
  | nil => rfl
  | cons c t ih =>
    cases j with
    | zero =>
      simp only [wsum, Nat.add_zero, beq_self_eq_true, pick_true, List.getElem?_cons_zero, Option.map_some,
        Option.getD_some]
      rw [wsum_eq_zero]
      · rfl
      · intro i hi; simp; omega
    | succ j =>
      have e : (fun i => i == off + (j + 1)) = (fun i => i == (off + 1) + j) := by
        funext i; congr 1; omega
      have hne : (off == off + (j + 1)) = false := by simp
      simp only [wsum, hne, pick_false, Nat.zero_add, List.getElem?_cons_succ]
      rw [e]
      exact ih (off + 1) j

theorem wsum_all (off : Nat) (l : List Child) : wsum (fun _ => true) off l = (l.map (·.val)).sum := by
  induction l generalizing off with
  | nil => rfl
  | cons c t ih => simp [wsum, ih]

theorem storeHeld_single (v : MVec) (id : Nat) : storeHeld (fun i => i == id) v = v.valOf id := by
  simpa [storeHeld, MVec.valOf] using wsum_single 0 id v.store

theorem storeHeld_all (v : MVec) : storeHeld (fun _ => true) v = v.storeTotal := wsum_all 0 _

theorem cacheHeld_all (c : List (UInt64 × Nat × Nat)) : cacheHeld (fun _ => true) c = (c.map (·.2.2)).sum := by
  simp [cacheHeld]

theorem fresh_wf (names consts bf fod) : VWf (VW.fresh names consts bf fod) :=
  ⟨(fun _ hp => nomatch hp), (fun _ hlv => nomatch hlv)⟩

theorem fresh_held (sel : Nat → Bool) (names consts bf fod) : (VW.fresh names consts bf fod).held sel = 0 := rfl

theorem held_all (w : VW) : w.held (fun _ => true) = w.v.storeTotal + pendingTotal w.locals := by
  unfold VW.held localsHeld pendingTotal
  rw [storeHeld_all]
  have : optHeld (fun _ => true) = optPending := funext fun o => by
    cases o with
    | none => rfl
    | some lv => exact cacheHeld_all lv.cache
  rw [this]

theorem held_single (w : VW) (id : Nat) :
    w.held (fun i => i == id) = w.v.valOf id + localsHeld (fun i => i == id) w.locals := by
  unfold VW.held
  rw [storeHeld_single]

/-- `v'` comes from `v` by operations that keep the ids of the key map in range, do not shrink the
    store, and add `a` to the selected children.  Every operation of the shared vector is of this
    kind; the world lemmas `set_facts` / `shared_facts` ask for nothing else about it. -/
structure Adds (sel : Nat → Bool) (a : Nat) (v v' : MVec) : Prop where
  keys : KeysOk v → KeysOk v'
  len : v.store.length ≤ v'.store.length
  held : storeHeld sel v' = storeHeld sel v + a

theorem Adds.refl {sel : Nat → Bool} {v : MVec} : Adds sel 0 v v := ⟨id, Nat.le_refl _, rfl⟩

theorem Adds.trans {sel : Nat → Bool} {a b : Nat} {v v' v'' : MVec} (h : Adds sel a v v') (h' : Adds sel b v' v'') :
    Adds sel (a + b) v v'' :=
  ⟨h'.keys ∘ h.keys, Nat.le_trans h.len h'.len, by rw [h'.held, h.held, Nat.add_assoc]⟩

/-- same store, no new keys: nothing added (`removeKey`, `reset`) -/
theorem Adds.of_store {sel : Nat → Bool} {v v' : MVec} (hs : v'.store = v.store)
    (hc : ∀ p ∈ v'.children, p ∈ v.children) : Adds sel 0 v v' :=
  ⟨fun h p hp => hs ▸ h p (hc p hp), Nat.le_of_eq (by rw [hs]), by rw [storeHeld, hs]; rfl⟩

theorem adds_bump (sel : Nat → Bool) {v : MVec} {id : Nat} (hi : id < v.store.length) (d : Nat) :
    Adds sel (pick (sel id) d) v (v.bump id d) :=
  ⟨fun h => by simpa [KeysOk, MVec.bump] using h, by simp [MVec.bump],
   by simpa [storeHeld, MVec.bump] using wsum_modify sel 0 v.store id d hi⟩

theorem bump_zero (v : MVec) (id : Nat) : v.bump id 0 = v := by
  show ({ v with store := v.store.modify id _root_.id } : MVec) = v
  rw [List.modify_id]

theorem flushCache_nil (v : MVec) : flushCache v [] = v := rfl
theorem flushCache_cons (v : MVec) (e) (c) : flushCache v (e :: c) = flushCache (v.bump e.2.1 e.2.2) c := rfl

theorem adds_flushCache (sel : Nat → Bool) {v : MVec} {c : List (UInt64 × Nat × Nat)}
    (hc : ∀ e ∈ c, e.2.1 < v.store.length) : Adds sel (cacheHeld sel c) v (flushCache v c) := by
  induction c generalizing v with
  | nil => exact .refl
  | cons e t ih =>
    have h := adds_bump sel (hc e (List.mem_cons_self ..)) e.2.2
    exact h.trans (ih fun e' he' => Nat.lt_of_lt_of_le (hc e' (List.mem_cons_of_mem _ he')) h.len)

theorem flushCache_zero (v : MVec) (c : List (UInt64 × Nat × Nat)) (h : ∀ e ∈ c, e.2.2 = 0) :
    flushCache v c = v := by
  induction c generalizing v with
  | nil => rfl
  | cons e t ih =>
    rw [flushCache_cons, h e (List.mem_cons_self ..), bump_zero]
    exact ih v (fun e' he' => h e' (List.mem_cons_of_mem _ he'))

theorem lflush_live {w : VW} {h : Nat} {lv : LVec} (hl : w.locals[h]? = some (some lv)) :
    w.lflush h = ⟨flushCache w.v lv.cache, w.locals.set h (some ⟨lv.cache.map fun e => (e.1, e.2.1, 0)⟩),
      w.flushOnDrop⟩ := by
  simp only [VW.lflush, hl]

theorem adds_removeKey (sel : Nat → Bool) (v : MVec) (k : UInt64) : Adds sel 0 v (removeKey v k).1 :=
  .of_store (removeKey_only_unlinks v k).1 (removeKey_only_unlinks v k).2

theorem adds_getOrCreate (sel : Nat → Bool) {v v' : MVec} {k : UInt64} {vals : List Str} {r : Except VErr Nat}
    (h : getOrCreate v k vals = (v', r)) (hk : KeysOk v) :
    Adds sel 0 v v' ∧ ∀ id, r = .ok id → id < v'.store.length := by
  have hk' := getOrCreate_keysOk hk h
  refine ⟨?_, fun id e => hk' _ (getOrCreate_binds (e ▸ h)).1⟩
  rcases getOrCreate_cases v k vals with ⟨_, _, e⟩ | ⟨_, _, e⟩ | ⟨_, _, e⟩ <;> rw [e] at h <;> cases h
  · exact .refl
  · exact .refl
  · exact ⟨fun _ => hk', by simp, by simp [storeHeld, wsum_append, wsum]⟩

theorem adds_withLabelValues (sel : Nat → Bool) {v v' : MVec} {vals : List Str} {r : Except VErr Nat}
    (h : withLabelValues v vals = (v', r)) (hk : KeysOk v) :
    Adds sel 0 v v' ∧ ∀ id, r = .ok id → id < v'.store.length := by
  unfold withLabelValues at h
  split at h
  · cases h; exact ⟨.refl, fun _ e => nomatch e⟩
  · exact adds_getOrCreate sel h hk

theorem adds_removeLabelValues (sel : Nat → Bool) (v : MVec) (vals : List Str) :
    Adds sel 0 v (removeLabelValues v vals).1 := by
  unfold removeLabelValues
  split
  · exact .refl
  · exact adds_removeKey sel v _

theorem adds_reset (sel : Nat → Bool) (v : MVec) : Adds sel 0 v v.reset :=
  .of_store rfl fun _ hp => nomatch hp

theorem cacheOk_nil (n : Nat) : CacheOk n [] := ⟨by simp, fun _ h => nomatch h⟩

theorem cache_zeroed (sel : Nat → Bool) {n : Nat} {c} (h : CacheOk n c) :
    CacheOk n (c.map fun e => (e.1, e.2.1, 0)) ∧ cacheHeld sel (c.map fun e => (e.1, e.2.1, 0)) = 0 := by
  refine ⟨⟨by rw [List.map_map]; exact h.1, fun e he => ?_⟩, by simp [cacheHeld, Function.comp_def, List.map_const']⟩
  obtain ⟨e0, he0, rfl⟩ := List.mem_map.1 he
  exact h.2 e0 he0

/-- a hit: the keys being distinct, the update rewrites the one entry found -/
theorem cache_hit (sel : Nat → Bool) {n : Nat} {c : List (UInt64 × Nat × Nat)} {k : UInt64} {id p : Nat}
    (hc : CacheOk n c) (hf : cacheFind c k = some (id, p)) (d : Nat) :
    CacheOk n (c.map fun e => if e.1 == k then (k, id, p + d) else e) ∧
    cacheHeld sel (c.map fun e => if e.1 == k then (k, id, p + d) else e) = cacheHeld sel c + pick (sel id) d := by
  obtain ⟨a, r, rfl, -, hm⟩ := alook_split hc.1 hf
  rw [hm]
  refine ⟨⟨by simpa using hc.1, ?_⟩, by simp [cacheHeld, pick_add]; omega⟩
  have := hc.2
  simp only [List.forall_mem_append, List.forall_mem_cons] at this ⊢
  exact this

theorem cache_miss (sel : Nat → Bool) {n : Nat} {c : List (UInt64 × Nat × Nat)} {k : UInt64}
    (hc : CacheOk n c) (hf : cacheFind c k = none) {id : Nat} (hid : id < n) (d : Nat) :
    CacheOk n (c ++ [(k, id, d)]) ∧ cacheHeld sel (c ++ [(k, id, d)]) = cacheHeld sel c + pick (sel id) d := by
  refine ⟨⟨nodup_map_concat hc.1 (alook_eq_none.1 hf), ?_⟩, by simp [cacheHeld]⟩
  simp only [List.forall_mem_append, List.forall_mem_singleton]
  exact ⟨hc.2, hid⟩

/-- what a cache has pending under key `k` -/
def cacheAmt (sel : Nat → Bool) (c : List (UInt64 × Nat × Nat)) (k : UInt64) : Nat :=
  match cacheFind c k with
  | some (id, p) => pick (sel id) p
  | none => 0

theorem cache_remove (sel : Nat → Bool) {n : Nat} {c : List (UInt64 × Nat × Nat)} (hc : CacheOk n c) (k : UInt64) :
    CacheOk n (c.filter (·.1 != k)) ∧ cacheHeld sel (c.filter (·.1 != k)) + cacheAmt sel c k = cacheHeld sel c := by
  refine ⟨⟨.sublist (.map _ List.filter_sublist) hc.1, fun e he => hc.2 e (List.mem_filter.1 he).1⟩, ?_⟩
  unfold cacheAmt
  cases hf : cacheFind c k with
  | none => rw [List.filter_eq_self.2 fun e he => by simpa using alook_eq_none.1 hf e he]; rfl
  | some ip =>
    obtain ⟨a, r, rfl, hfl, -⟩ := alook_split hc.1 hf
    rw [hfl]
    simp [cacheHeld]
    omega

theorem mem_of_getElem? {α} {l : List α} {i : Nat} {a : α} (h : l[i]? = some a) : a ∈ l :=
  List.mem_of_getElem? h

def OptOk (n : Nat) : Option LVec → Prop
  | some lv => CacheOk n lv.cache
  | none => True

/-- handle `h` goes from `o` to `o'` while the vector gains `a`: if `o'` is in order and the amounts
    balance between the handle, the vector, what goes in and what is thrown away, the world is
    well-formed and balances -/
theorem set_facts (sel : Nat → Bool) {w : VW} (hw : VWf w) {h : Nat} {o : Option LVec} (hl : w.locals[h]? = some o)
    {a : Nat} {v' : MVec} (hv : Adds sel a w.v v') (o' : Option LVec) (ho : OptOk v'.store.length o')
    {f : Bool} {out inp : Nat} (hb : optHeld sel o' + a + out = optHeld sel o + inp) :
    VWf ⟨v', w.locals.set h o', f⟩ ∧ VW.held sel ⟨v', w.locals.set h o', f⟩ + out = w.held sel + inp := by
  refine ⟨⟨hv.keys hw.1, fun lv hlv => ?_⟩, ?_⟩
  · rcases List.mem_or_eq_of_mem_set hlv with hm | he
    · exact (hw.2 lv hm).mono hv.len
    · exact he ▸ ho
  · have : localsHeld sel (w.locals.set h o') + optHeld sel o = localsHeld sel w.locals + optHeld sel o' :=
      sum_map_set (optHeld sel) o' hl
    simp only [VW.held, hv.held]
    omega

/-- a handle that holds nothing is appended (an empty cache, or the placeholder for a clone of a dropped handle):
    the world stays well-formed and holds what it held -/
theorem append_facts (sel : Nat → Bool) {w : VW} (hw : VWf w) {o : Option LVec} (ho : OptOk w.v.store.length o)
    (hz : optHeld sel o = 0) :
    VWf ⟨w.v, w.locals ++ [o], w.flushOnDrop⟩ ∧
    VW.held sel ⟨w.v, w.locals ++ [o], w.flushOnDrop⟩ = w.held sel := by
  refine ⟨⟨hw.1, fun lv hlv => ?_⟩, by simp [VW.held, localsHeld, hz]⟩
  rcases List.mem_append.1 hlv with hm | hm
  · exact hw.2 lv hm
  · exact List.mem_singleton.1 hm ▸ ho

theorem shared_facts (sel : Nat → Bool) {w : VW} (hw : VWf w) {a : Nat} {v' : MVec} (hv : Adds sel a w.v v') :
    VWf ⟨v', w.locals, w.flushOnDrop⟩ ∧ VW.held sel ⟨v', w.locals, w.flushOnDrop⟩ = w.held sel + a :=
  ⟨⟨hv.keys hw.1, fun lv hlv => (hw.2 lv hlv).mono hv.len⟩, by simp only [VW.held, hv.held]; omega⟩

theorem step_facts (sel : Nat → Bool) (w : VW) (hw : VWf w) (op : VOpL) :
    VWf (w.step op) ∧ (w.step op).held sel + w.discards sel op = w.held sel + w.input sel op := by
  -- a dead handle changes nothing; a live one is `set_facts` with what the operation does to the
  -- vector (`Adds`) and to the cache (the cache lemma of its case)
  cases op with
  | lwith h vals d =>
    simp only [VW.step, VW.lwith, VW.input, VW.lwithTarget, VW.discards]
    match hl : w.locals[h]? with
    | none | some none => exact ⟨hw, rfl⟩
    | some (some lv) =>
      cases hashLabelValues w.v vals with
      | error e => exact ⟨hw, rfl⟩
      | ok k =>
        simp only []  -- reduces the `match` on the constructor just substituted (so below)
        cases hf : cacheFind lv.cache k with
        | some ip =>
          obtain ⟨hok, hheld⟩ := cache_hit sel (hw.cache hl) hf d
          -- `hheld` is the `hb` of `set_facts` up to `x + 0 + 0 ≡ x`: `a = 0` from `.refl`, and `out` (here 0), `inp`
          -- are read off the goal that `simp only [VW.input, VW.discards]` left (so at every `set_facts` below)
          exact set_facts sel hw hl .refl (some ⟨_⟩) hok hheld
        | none =>
          cases hg : getOrCreate w.v k vals with
          | mk v' r =>
            cases r with
            | error e => exact ⟨hw, rfl⟩
            | ok id =>
              obtain ⟨hv, hid⟩ := adds_getOrCreate sel hg hw.1
              obtain ⟨hok, hheld⟩ := cache_miss sel ((hw.cache hl).mono hv.len) hf (hid id rfl) d
              exact set_facts sel hw hl hv (some ⟨_⟩) hok hheld
  | lflush h =>
    simp only [VW.step, VW.lflush, VW.input, VW.discards]
    match hl : w.locals[h]? with
    | none | some none => exact ⟨hw, rfl⟩
    | some (some lv) =>
      have hv := adds_flushCache sel (hw.cache hl).2
      obtain ⟨hok, hz⟩ := cache_zeroed sel (hw.cache hl)
      exact set_facts sel hw hl hv (some ⟨_⟩) (hok.mono hv.len) (by rw [optHeld, hz, Nat.zero_add]; rfl)
  | lremove h vals =>
    simp only [VW.step, VW.lremove, VW.input, VW.discards]
    match hl : w.locals[h]? with
    | none | some none => simp only [ite_self]; exact ⟨hw, trivial⟩
    | some (some lv) =>
      cases hashLabelValues w.v vals with
      | error e => simp only [ite_self]; exact ⟨hw, trivial⟩
      | ok k =>
        obtain ⟨hok, hrem⟩ := cache_remove sel (hw.cache hl) k
        simp only []
        -- the cached local of `k` is flushed (histogram flavour) or thrown away, then the key removed
        cases hf : cacheFind lv.cache k with
        | none =>
          have hv := adds_removeKey sel w.v k
          simp only [cacheAmt, hf] at hrem
          exact set_facts sel hw hl hv (some ⟨_⟩) (hok.mono hv.len) (by rw [ite_self]; exact hrem)
        | some ip =>
          simp only [cacheAmt, hf] at hrem
          cases w.flushOnDrop with
          | false =>
            have hv := adds_removeKey sel w.v k
            exact set_facts sel hw hl hv (some ⟨_⟩) (hok.mono hv.len) hrem
          | true =>
            have hv := (adds_bump sel ((hw.cache hl).2 _ (alook_mem hf)) ip.2).trans (adds_removeKey sel _ k)
            exact set_facts sel hw hl hv (some ⟨_⟩) (hok.mono hv.len) hrem
  | lclone h =>
    simp only [VW.step, VW.lclone, VW.input, VW.discards, Nat.add_zero]
    match w.locals[h]? with
    | none => exact ⟨hw, rfl⟩
    | some none => exact append_facts sel hw (o := none) trivial rfl
    | some (some _) => exact append_facts sel hw (o := some {}) (cacheOk_nil _) rfl
  | ldrop h =>
    simp only [VW.step, VW.ldrop, VW.input, VW.discards]
    match hl : w.locals[h]? with
    | none | some none => simp only [ite_self]; exact ⟨hw, trivial⟩
    | some (some lv) =>
      cases w.flushOnDrop with
      | true => exact set_facts sel hw hl (adds_flushCache sel (hw.cache hl).2) none trivial (Nat.zero_add _)
      | false => exact set_facts sel hw hl .refl none trivial (Nat.zero_add _)
  | lnew => exact append_facts sel hw (o := some {}) (cacheOk_nil _) rfl
  | swith vals d =>
    simp only [VW.step, VW.input, VW.discards, Nat.add_zero]
    cases hg : withLabelValues w.v vals with
    | mk v' r =>
      obtain ⟨hv, hid⟩ := adds_withLabelValues sel hg hw.1
      cases r with
      | error e => exact shared_facts sel hw hv
      | ok id => simpa only [Nat.zero_add] using shared_facts sel hw (hv.trans (adds_bump sel (hid id rfl) d))
  | sremove vals => exact shared_facts sel hw (adds_removeLabelValues sel w.v vals)
  | sreset => exact shared_facts sel hw (adds_reset sel w.v)

theorem step_flushOnDrop (w : VW) (op : VOpL) : (w.step op).flushOnDrop = w.flushOnDrop := by
  cases op with
  | lwith h vals d =>
    simp only [VW.step, VW.lwith]
    split
    · split
      · rfl
      · split
        · rfl
        · split <;> rfl
    · rfl
  | lflush h => simp only [VW.step, VW.lflush]; split <;> rfl
  | lremove h vals =>
    simp only [VW.step, VW.lremove]
    split
    · split <;> rfl
    · rfl
  | lclone h => simp only [VW.step, VW.lclone]; split <;> rfl
  | ldrop h => simp only [VW.step, VW.ldrop]; split <;> rfl
  | lnew => rfl
  | swith vals d => simp only [VW.step]; split <;> rfl
  | sremove vals => rfl
  | sreset => rfl

theorem discards_of_flushOnDrop (sel : Nat → Bool) (w : VW) (op : VOpL) (hf : w.flushOnDrop = true) :
    w.discards sel op = 0 := by
  cases op <;> simp [VW.discards, hf]

theorem run_wf (w : VW) (hw : VWf w) (ops : List VOpL) : VWf (ops.foldl VW.step w) :=
  List.foldlRecOn ops VW.step hw fun w hw op _ => (step_facts (fun _ => true) w hw op).1

theorem run_flushOnDrop (w : VW) (ops : List VOpL) : (ops.foldl VW.step w).flushOnDrop = w.flushOnDrop :=
  List.foldlRecOn ops VW.step (motive := fun w' => w'.flushOnDrop = w.flushOnDrop) rfl
    fun w' h op _ => (step_flushOnDrop w' op).trans h

theorem totalDiscarded_of_flushOnDrop (sel : Nat → Bool) (w : VW) (hf : w.flushOnDrop = true) (ops : List VOpL) :
    w.totalDiscarded sel ops = 0 := by
  induction ops generalizing w with
  | nil => rfl
  | cons op r ih =>
    simp only [VW.totalDiscarded, discards_of_flushOnDrop sel w op hf, Nat.zero_add]
    exact ih _ (by rw [step_flushOnDrop]; exact hf)

end Prom.C12
