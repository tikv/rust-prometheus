import Prom.Model.HistMachine
import Prom.Lemmas.Histogram
import Prom.Lemmas.ListAux
/-
The cells of a cut in terms of the VALUES that were observed. `statCells bounds all` is the cell vector a snapshot of
the values `all` must show; the observation of one call (`obsOfVals bounds vals`, for `obs:v` / `flush:v1+v2+…`)
contributes `statCells bounds vals` (`obsOfVals_cells`), `statCells` is additive over `++`, so a cut of calls shows
`statCells` of all their values (`cut_cells`). The second half reads `statCells` for strictly increasing bounds:
running sums of the bucket cells are numbers of values `<=` a bound, and so is the rendered snapshot.
-/
namespace Prom.HM
open Prom.Conc Hp

/-- the number of values of `vals` that fall into bucket `c` (first bound `>=` the value). `statCells`, whose text is
    fixed, spells this body out for its bucket cells: `statCells_bucket` says so. -/
def bucketCount (bounds : List UInt64) (c : Nat) (vals : List Int) : Nat :=
  (vals.filter fun v => findBucket bounds (f64OfInt v) == some c).length

theorem bucketCount_nil (bounds : List UInt64) (c : Nat) : bucketCount bounds c [] = 0 := rfl

/-- the cells a snapshot of the values `all` must show: bucket counts, then the sum, then nothing -/
def statCells (bounds : List UInt64) (all : List Int) : Cells := fun c =>
  if c < bounds.length then ((all.filter fun v => findBucket bounds (f64OfInt v) == some c).length : Int)
  else if c = bounds.length then all.foldl (· + ·) 0 else 0

theorem statCells_bucket {bounds : List UInt64} {c : Nat} (hc : c < bounds.length) (all : List Int) :
    statCells bounds all c = (bucketCount bounds c all : Int) :=
  if_pos hc

theorem statCells_sum (bounds : List UInt64) (all : List Int) :
    statCells bounds all bounds.length = all.foldl (· + ·) 0 :=
  (if_neg (Nat.lt_irrefl _)).trans (if_pos rfl)

theorem statCells_beyond {bounds : List UInt64} {c : Nat} (hc : bounds.length < c) (all : List Int) :
    statCells bounds all c = 0 :=
  (if_neg (Nat.lt_asymm hc)).trans (if_neg (Nat.ne_of_gt hc))

theorem statCells_append (bounds : List UInt64) (a b : List Int) (c : Nat) :
    statCells bounds (a ++ b) c = statCells bounds a c + statCells bounds b c := by
  rcases Nat.lt_trichotomy c bounds.length with h | rfl | h
  · simp only [statCells_bucket h, bucketCount, List.filter_append, List.length_append, Int.natCast_add]
  · simp only [statCells_sum, ← List.sum_eq_foldl, List.sum_append]
  · simp only [statCells_beyond h]; rfl

theorem obsOfVals_w (bounds : List UInt64) (vals : List Int) : (obsOfVals bounds vals).w = vals.length := rfl

/-- the count list `obsOfVals` builds is that of the sequential histogram (`C08.bucketStep`), so entry `c`
    is the number of values in bucket `c` -/
theorem obsOfVals_count (bounds : List UInt64) (vals : List Int) (c : Nat) :
    (vals.foldl (fun acc v => C08.bucketStep bounds acc (f64OfInt v)) (List.replicate bounds.length 0))[c]?.getD 0 =
      bucketCount bounds c vals := by
  rw [← List.foldl_map, C08.observed_getD, bucketCount, List.countP_map, List.countP_eq_length_filter]
  rfl

theorem bucketCount_ge (bounds : List UInt64) (c : Nat) (vals : List Int) (hc : bounds.length ≤ c) :
    bucketCount bounds c vals = 0 := by
  simp only [bucketCount, List.length_eq_zero_iff, List.filter_eq_nil_iff, beq_iff_eq]
  intro v _ hf
  have := findBucket_lt hf
  omega

/-- the bucket entries `obsOfVals` builds from a count list `cs` (numbered from `n`) contribute `cs[c - n]` to cell `c`.
    `g` stands for the `fun (cnt, i) => …` of `obsOfVals`, so that its matcher need not be named. -/
theorem contribL_zipIdx (g : Nat × Nat → Option (Nat × Int))
    (hg : ∀ cnt i, g (cnt, i) = if cnt > 0 then some (i, (cnt : Int)) else none) :
    ∀ (cs : List Nat) (n c : Nat),
      contribL ((cs.zipIdx n).filterMap g) c = if n ≤ c then ((cs[c - n]?.getD 0 : Nat) : Int) else 0 := by
  intro cs
  induction cs with
  | nil => intro n c; simp
  | cons x r ih =>
    intro n c
    -- the head contributes `x` to cell `n` (also when it is dropped: then `x = 0`)
    have hd : contribL (((x :: r).zipIdx n).filterMap g) c =
        (if n = c then (x : Int) else 0) + contribL ((r.zipIdx (n + 1)).filterMap g) c := by
      simp only [List.zipIdx_cons, List.filterMap_cons, hg]
      by_cases hx : x > 0
      · simp only [hx, if_true, contribL_cons]
      · simp [show x = 0 by omega]
    rw [hd, ih]
    rcases Nat.lt_trichotomy n c with h | rfl | h
    · rw [show c - n = (c - (n + 1)) + 1 by omega]
      simp [Nat.ne_of_lt h, Nat.le_of_lt h, Nat.succ_le_of_lt h]
    · simp [Nat.not_succ_le_self]
    · simp [Nat.ne_of_gt h, Nat.not_le_of_gt h, Nat.not_le_of_gt (Nat.lt_succ_of_lt h)]

theorem obsOfVals_cells (bounds : List UInt64) (vals : List Int) (c : Nat) :
    contribL (obsOfVals bounds vals).upd c = statCells bounds vals c := by
  have hz : contribL (obsOfVals bounds vals).upd c =
      (bucketCount bounds c vals : Int) + if bounds.length = c then vals.foldl (· + ·) 0 else 0 := by
    unfold obsOfVals
    simp only [contribL_app, contribL_cons, contribL_nil, Int.add_zero]
    rw [contribL_zipIdx _ (fun cnt i => rfl)]
    exact congrArg (fun n : Nat => (n : Int) + _) (obsOfVals_count bounds vals c)
  rw [hz]
  rcases Nat.lt_trichotomy c bounds.length with h | rfl | h
  · rw [statCells_bucket h, if_neg (Nat.ne_of_gt h), Int.add_zero]
  · rw [statCells_sum, bucketCount_ge _ _ _ (Nat.le_refl _), if_pos rfl]; exact Int.zero_add _
  · rw [statCells_beyond h, bucketCount_ge _ _ _ (Nat.le_of_lt h), if_neg (Nat.ne_of_lt h)]; rfl

/-- a call touches no cell beyond the sum cell, the last cell of a shard -/
theorem obsOfVals_beyond (bounds : List UInt64) (vals : List Int) (c : Nat) (hc : bounds.length < c) :
    contribL (obsOfVals bounds vals).upd c = 0 :=
  (obsOfVals_cells bounds vals c).trans (statCells_beyond hc vals)

theorem cut_totW (bounds : List UInt64) (valss : List (List Int)) :
    totW (valss.map (obsOfVals bounds)) = valss.flatten.length := by
  induction valss with
  | nil => simp
  | cons vs r ih => rw [List.map_cons, totW_cons, ih, obsOfVals_w, List.flatten_cons, List.length_append]

theorem cut_cells (bounds : List UInt64) (valss : List (List Int)) (c : Nat) :
    tot (valss.map (obsOfVals bounds)) c = statCells bounds valss.flatten c := by
  induction valss with
  | nil => simp [statCells]
  | cons vs r ih => rw [List.map_cons, tot_cons, ih, obsOfVals_cells, List.flatten_cons, statCells_append]

/-- `C08.foldl_bucketStep_take_sum` for the count list of `obsOfVals` -/
theorem cum_buckets {bounds : List UInt64} (hs : StrictIncr bounds) (vals : List Int) (i : Nat) (b : UInt64)
    (hb : bounds[i]? = some b) :
    ((List.range (i + 1)).map fun c => bucketCount bounds c vals).sum =
      vals.countP (fun v => f64Le (f64OfInt v) b) := by
  simp only [← obsOfVals_count, sum_range_getD]
  rw [← List.foldl_map, C08.foldl_bucketStep_take_sum hs hb _ _ List.length_replicate, List.countP_map]
  simp [Function.comp_def]

theorem statCells_cum {bounds : List UInt64} (hs : StrictIncr bounds) (all : List Int) (i : Nat) (b : UInt64)
    (hb : bounds[i]? = some b) :
    ((List.range (i + 1)).map (statCells bounds all)).sum = (all.countP (fun v => f64Le (f64OfInt v) b) : Int) := by
  have hi : i < bounds.length := lt_of_getElem? hb
  rw [← cum_buckets hs all i b hb, ← sum_map_cast]
  exact congrArg List.sum (List.map_congr_left fun c hc =>
    statCells_bucket (by have := List.mem_range.1 hc; omega) all)

/-- the string a `collect` call's result is compared with: count, sum (bit pattern), cumulative counts -/
def renderSnap (count : Nat) (sum : Int) (cum : List Nat) : String :=
  s!"{count}/{hexStr (f64OfInt sum)}/{"+".intercalate (cum.map toString)}"

theorem cumFold_eq (g : Nat → Nat) : ∀ (l : List Nat) (acc : List Nat) (a : Nat),
    (l.foldl (fun (acc : List Nat × Nat) i => (acc.1 ++ [acc.2 + g i], acc.2 + g i)) (acc, a)).1 =
      acc ++ cumulate a (l.map g) := by
  intro l
  induction l with
  | nil => intro acc a; simp [cumulate]
  | cons x r ih => intro acc a; simp [ih, cumulate]

theorem showSnap_eq (k ov : Nat) (taken : Cells) :
    showSnap k ov taken = renderSnap ov (taken k) (cumulate 0 ((List.range k).map fun i => (taken i).toNat)) := by
  unfold showSnap renderSnap
  simp only [cumFold_eq, List.nil_append]

theorem showSnap_statCells {bounds : List UInt64} (hs : StrictIncr bounds) (all : List Int) :
    showSnap bounds.length all.length (statCells bounds all) =
      renderSnap all.length (all.foldl (· + ·) 0) (bounds.map fun b => all.countP (fun v => f64Le (f64OfInt v) b)) := by
  rw [showSnap_eq, statCells_sum]
  congr 1
  refine cumulate_eq_map _ _ _ 0 (by simp) fun i b hb => ?_
  have hi : i + 1 ≤ bounds.length := lt_of_getElem? hb
  rw [Nat.zero_add, ← cum_buckets hs all i b hb, ← List.map_take, List.take_range, Nat.min_eq_left hi]
  exact congrArg List.sum (List.map_congr_left fun c hc => by
    rw [statCells_bucket (by have := List.mem_range.1 hc; omega), Int.toNat_natCast])

end Prom.HM
