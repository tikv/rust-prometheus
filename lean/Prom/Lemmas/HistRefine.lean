import Prom.Lemmas.HistAccept
import Prom.Lemmas.Replay
/-
The replay machine `Prom.HM.item` is analysed once: `evStep_acc` says what an accepted event is in terms of the proof
model (`Accepts`: a stutter, one step of the call's task - `TaskStep`, which is `Hp.Step` without the task list -, the
two steps of a swap of 0, or the unlock), `planCall_shape` which calls are opened, `item_cases` what an item does to
its thread. Refinement (`item_refines`; `MReach`, `mreach_reach`) and the ghost invariants (`HistInv.lean`) are read
off these.
-/
namespace Prom.HM
open Prom.Conc Hp

/-- the shared state `c` with the task list `ts`: what a state of the proof model is made of here, the task list being
    kept apart (`abs s` unfolds to `withTasks s.core (s.ths.filterMap taskOf)`) -/
def withTasks (c : Hp.St) (ts : List Task) : Hp.St := { c with tasks := ts }

/-- one step of one task `t` of the proof model from the shared state `c`: the new shared state and what the task
    becomes (`none`: it is finished). These are the constructors of `Hp.Step` other than the two spawns, without
    the task list around the task. -/
inductive TaskStep (k : Nat) (c : Hp.St) : Task → Hp.St → Option Task → Prop
  | claim (o : Obs) : TaskStep k c (.obsStart o)
      { c with n := c.n + o.w, claimed := c.claimed ++ [o], asg := modAsg c.asg c.hot (· ++ [o]) }
      (some (.obsRun o c.hot o.upd))
  | apply (o : Obs) (b : Bool) (cell : Nat) (a : Int) (l1 l2 : List (Nat × Int)) :
      TaskStep k c (.obsRun o b (l1 ++ (cell, a) :: l2))
        { c with sh := modSh c.sh b (fun x => { x with cell := setCell x.cell cell (x.cell cell + a) }) }
        (some (.obsRun o b (l1 ++ l2)))
  | publish (o : Obs) (b : Bool) : TaskStep k c (.obsRun o b [])
      { c with sh := modSh c.sh b (fun x => { x with count := x.count + o.w }) } none
  | acquire (hl : c.lock = false) : TaskStep k c .colWant { c with lock := true } (some .colLocked)
  | release : TaskStep k c .colLocked { c with lock := false } none
  | flip : TaskStep k c .colLocked { c with hot := !c.hot } (some (.colSpin c.hot c.n c.claimed))
  | spinOk (cold : Bool) (ov : Nat) (S : List Obs) (hc : (c.sh cold).count = ov) : TaskStep k c (.colSpin cold ov S)
      { c with sh := modSh c.sh cold (fun x => { x with count := 0 }) }
      (some (.colMove cold ov (prog k) (fun _ => 0) S))
  | swap (cold : Bool) (ov cell : Nat) (l1 l2 : List CStep) (taken : Cells) (S : List Obs) :
      TaskStep k c (.colMove cold ov (l1 ++ CStep.swap cell :: l2) taken S)
        { c with sh := modSh c.sh cold (fun x => { x with cell := setCell x.cell cell 0 }) }
        (some (.colMove cold ov (l1 ++ l2) (setCell taken cell ((c.sh cold).cell cell)) S))
  | addHot (cold : Bool) (ov cell : Nat) (l1 l2 : List CStep) (taken : Cells) (S : List Obs)
      (hs : CStep.swap cell ∉ l1 ++ l2) :
      TaskStep k c (.colMove cold ov (l1 ++ CStep.addHot cell :: l2) taken S)
        { c with sh := modSh c.sh (!cold) (fun x => { x with cell := setCell x.cell cell (x.cell cell + taken cell) }) }
        (some (.colMove cold ov (l1 ++ l2) taken S))
  | addCount (cold : Bool) (ov : Nat) (l1 l2 : List CStep) (taken : Cells) (S : List Obs) :
      TaskStep k c (.colMove cold ov (l1 ++ CStep.addCount :: l2) taken S)
        { c with sh := modSh c.sh (!cold) (fun x => { x with count := x.count + ov }) }
        (some (.colMove cold ov (l1 ++ l2) taken S))
  | unlock (cold : Bool) (ov : Nat) (taken : Cells) (S : List Obs) :
      TaskStep k c (.colMove cold ov [CStep.unlock] taken S)
        { c with lock := false, snaps := c.snaps ++ [(⟨ov, taken⟩, S)],
                 asg := fun b => if b = cold then [] else c.asg (!cold) ++ c.asg cold } none

theorem TaskStep.step {k : Nat} {c c' : Hp.St} {t : Task} {t' : Option Task} (h : TaskStep k c t c' t')
    (pre post : List Task) :
    Hp.Step k (withTasks c (pre ++ t :: post)) (withTasks c' (pre ++ (t'.toList ++ post))) := by
  -- with the list bracketed this way each case is the constructor of `Hp.Step` up to unfolding
  cases h with
  | claim o => exact Step.claim _ pre post o rfl
  | apply o b cell a l1 l2 => exact Step.apply _ pre post o b cell a l1 l2 rfl
  | publish o b => exact Step.publish _ pre post o b rfl
  | acquire hl => exact Step.acquire _ pre post rfl hl
  | release => exact Step.release _ pre post rfl
  | flip => exact Step.flip _ pre post rfl
  | spinOk cold ov S hc => exact Step.spinOk _ pre post cold ov S rfl hc
  | swap cold ov cell l1 l2 taken S => exact Step.swap _ pre post cold ov cell l1 l2 taken S rfl
  | addHot cold ov cell l1 l2 taken S hs => exact Step.addHot _ pre post cold ov cell l1 l2 taken S rfl hs
  | addCount cold ov l1 l2 taken S => exact Step.addCount _ pre post cold ov l1 l2 taken S rfl
  | unlock cold ov taken S => exact Step.unlock _ pre post cold ov taken S rfl

/-- **what an accepted event of a call in state `pc` does**: a stutter (the shared state and the call's task stay);
    one step of the call's task; the swap of a bucket that holds 0 together with the `addHot` of that 0 (two steps
    of the task, the shared state stays); or the collector's unlock, which returns the snapshot and records its cut.
    The ghost `c0` of the call is never touched. -/
inductive Accepts (k : Nat) (c : Hp.St) (cuts : Cuts) (pc : Pc) : Res × Cuts → Prop
  | stutter (pc' : Pc) (rv : Option String) (ht : pc'.task = pc.task) (h0 : pc'.c0 = pc.c0) :
      Accepts k c cuts pc ((c, pc', rv), cuts)
  | step {t : Task} {c' : Hp.St} (pc' : Pc) (rv : Option String) (ht : pc.task = some t) (h0 : pc'.c0 = pc.c0)
      (hs : TaskStep k c t c' pc'.task) (hn : c'.snaps = c.snaps) : Accepts k c cuts pc ((c', pc', rv), cuts)
  | skip {t t1 : Task} {c' : Hp.St} (pc' : Pc) (ht : pc.task = some t) (h0 : pc'.c0 = pc.c0) (hc : c' = c)
      (h1 : TaskStep k c t c (some t1)) (h2 : TaskStep k c t1 c pc'.task) : Accepts k c cuts pc ((c', pc', none), cuts)
  | unlock (cold : Bool) (ov : Nat) (taken : Cells) (S : List Obs) (pc' : Pc)
      (ht : pc.task = some (.colMove cold ov [CStep.unlock] taken S)) (ht' : pc'.task = none) (h0 : pc'.c0 = pc.c0) :
      Accepts k c cuts pc
        (({ c with lock := false, snaps := c.snaps ++ [(⟨ov, taken⟩, S)],
                   asg := fun b => if b = cold then [] else c.asg (!cold) ++ c.asg cold }, pc', some (showSnap k ov taken)),
         cuts ++ [⟨pc.c0, S, c.claimed, showSnap k ov taken⟩])

theorem Accepts.of_fetchAdd {k : Nat} {c : Hp.St} {cuts : Cuts} {e : Ev} {pc : Pc} {loc : Loc} {ord : String} {a x : UInt64}
    {ok : Bool} {msg : String} {onOk : Res} (hok : Accepts k c cuts pc (faDone onOk, cuts)) :
    OkAll (Accepts k c cuts pc) (plainR cuts (fetchAdd e c pc loc ord a x ok msg onOk)) := by
  refine okAll_plainR.2 fun r h => ?_
  rcases fetchAdd_cases h with ⟨⟨ic, f, rfl⟩, _⟩ | ⟨rfl, _⟩
  · exact .stutter _ _ rfl rfl
  · exact hok

theorem Accepts.of_casLoop {k : Nat} {c : Hp.St} {cuts : Cuts} {e : Ev} {pc : Pc} {b : Bool} {cell : Nat} {a : Int}
    {onOk : Res} (hok : Accepts k c cuts pc (onOk, cuts)) :
    OkAll (Accepts k c cuts pc) (plainR cuts (casLoop e c pc b cell a onOk)) := by
  refine okAll_plainR.2 fun r h => ?_
  rcases (casLoop_cases h).2 with ⟨_, rfl⟩ | ⟨_, _, rfl⟩ | ⟨_, _, rfl, _⟩
  · exact .stutter _ _ rfl rfl
  · exact hok
  · exact .stutter _ _ rfl rfl

theorem modSh_add_zero (sh : Bool → Shard) (b : Bool) (cell : Nat) :
    modSh sh b (fun x => { x with cell := setCell x.cell cell (x.cell cell + 0) }) = sh :=
  modSh_self sh b _ (by rw [Int.add_zero, setCell_self])

/-- the swap of a cold cell: one step, or - a bucket that holds 0 - the swap and the `addHot` of 0 -/
theorem Accepts.of_swapRes {k : Nat} {c : Hp.St} {cuts : Cuts} {pc : Pc} {cold : Bool} {ov cell : Nat} {l1 l2 : List CStep}
    {taken : Cells} {S : List Obs} (ht : pc.task = some (.colMove cold ov (l1 ++ CStep.swap cell :: l2) taken S)) :
    Accepts k c cuts pc (swapRes k c pc cold ov cell (l1 ++ l2) taken S, cuts) := by
  unfold swapRes
  simp only
  split
  · next rest' hsk =>
    obtain ⟨_, hx, hns, m1, m2, e1, rfl⟩ := skipTask_spec hsk
    have hsh : modSh c.sh cold (fun sd => { sd with cell := setCell sd.cell cell 0 }) = c.sh :=
      modSh_self c.sh cold _ (by rw [← hx, setCell_self])
    have h1 := TaskStep.swap (k := k) (c := c) cold ov cell l1 l2 taken S
    rw [hsh, e1] at h1
    have h2 := TaskStep.addHot (k := k) (c := c) cold ov cell m1 m2 (setCell taken cell ((c.sh cold).cell cell)) S hns
    have h0 : setCell taken cell ((c.sh cold).cell cell) cell = 0 := by rw [setCell_same, hx]
    rw [h0, modSh_add_zero] at h2
    exact .skip _ ht rfl (by rw [hsh]) h1 h2
  · exact .step _ _ ht rfl (.swap cold ov cell l1 l2 taken S) rfl

/-- the skipped `fetch_add(0)` is the `addHot` step of the proof model with `taken cell = 0`, which changes nothing but
    the collector's list of steps (the second step of `Accepts.skip`, written out on a whole task list) -/
theorem skip_is_step {k : Nat} (c : Hp.St) (pre post : List Task) (cold : Bool) (ov cell : Nat) (m1 m2 : List CStep)
    (taken : Cells) (S : List Obs) (h0 : taken cell = 0) (hs : CStep.swap cell ∉ m1 ++ m2) :
    Hp.Step k (withTasks c (pre ++ [Task.colMove cold ov (m1 ++ CStep.addHot cell :: m2) taken S] ++ post))
      (withTasks c (pre ++ [Task.colMove cold ov (m1 ++ m2) taken S] ++ post)) := by
  have := (TaskStep.addHot (k := k) (c := c) cold ov cell m1 m2 taken S hs).step pre post
  rw [h0, modSh_add_zero] at this
  simpa using this

theorem colStep_acc {k : Nat} {c : Hp.St} {cuts : Cuts} {e : Ev} {pc : Pc} {cold : Bool} {ov : Nat}
    {todo : List CStep} {taken : Cells} {S : List Obs}
    (ht : pc.task = some (.colMove cold ov todo taken S)) :
    OkAll (Accepts k c cuts pc) (colStep k c cuts e pc cold ov todo taken S) := by
  unfold colStep
  split
  · next l1 cell l2 hsp =>
    rw [(splitFirst_spec hsp).1] at ht
    simp only [okAll_ite, okAll_plainR, okAll_guard, okAll_ok]
    exact ⟨fun _ _ => .of_swapRes ht, fun _ _ => .of_swapRes ht⟩
  · next l1 cell l2 hsp =>
    rw [(splitFirst_spec hsp).1] at ht
    simp only [okAll_ite, okAll_error]
    refine ⟨fun _ => trivial, fun hns => ?_⟩
    have hs : CStep.swap cell ∉ l1 ++ l2 := by simpa using hns
    exact ⟨fun _ => .of_fetchAdd (.step _ none ht rfl (.addHot cold ov cell l1 l2 taken S hs) rfl),
      fun _ => .of_casLoop (.step _ none ht rfl (.addHot cold ov cell l1 l2 taken S hs) rfl)⟩
  · next l1 l2 hsp =>
    rw [(splitFirst_spec hsp).1] at ht
    exact .of_fetchAdd (.step _ none ht rfl (.addCount cold ov l1 l2 taken S) rfl)
  · next l1 l2 hsp =>
    rw [(splitFirst_spec hsp).1] at ht
    simp only [okAll_ite, okAll_error]
    refine ⟨fun _ => trivial, fun hemp => ?_⟩
    obtain ⟨rfl, rfl⟩ : l1 = [] ∧ l2 = [] := by simpa using hemp
    split
    · exact okAll_error.2 trivial
    · exact okAll_ok.2 (.unlock cold ov taken S _ ht rfl rfl)
  · split
    · exact .of_fetchAdd (.stutter _ _ rfl rfl)
    · exact okAll_error.2 trivial

theorem evStep_acc {k : Nat} {c : Hp.St} {cuts : Cuts} {e : Ev} {pc : Pc} {r : Res × Cuts}
    (h : evStep k c cuts e pc = .ok r) : Accepts k c cuts pc r := by
  revert r h
  show OkAll (Accepts k c cuts pc) (evStep k c cuts e pc)
  unfold evStep evStep1
  cases ht : pc.task with
  | none =>
    simp only [okAll_plainR, okAll_guard, okAll_ok]
    exact fun _ => .stutter _ _ rfl rfl
  | some t =>
    cases t with
    | obsStart o => exact .of_fetchAdd (.step _ none ht rfl (.claim o) rfl)
    | obsRun o b l =>
      cases l with
      | nil => exact .of_fetchAdd (.step _ _ ht rfl (.publish o b) rfl)
      | cons p l =>
        dsimp only
        have hsp := pick_spec k b (parseLoc e.loc) p l
        generalize pick k b (parseLoc e.loc) p l = sp at hsp
        obtain ⟨l1, ⟨cell, a⟩, l2⟩ := sp
        rw [← hsp] at ht
        simp only [obsEntry]
        split
        · exact .of_fetchAdd (.step _ none ht rfl (.apply o b cell a l1 l2) rfl)
        · exact .of_casLoop (.step _ none ht rfl (.apply o b cell a l1 l2) rfl)
    | colWant =>
      simp only [okAll_plainR, okAll_guard, okAll_ok]
      exact fun hg => .step _ _ ht rfl (.acquire (by simp at hg; exact hg.2)) rfl
    | colLocked =>
      simp only [okAll_ite, okAll_plainR, okAll_guard, okAll_ok]
      -- `sum`: the loads of stage 0 and stage 1 (stutters), then the unlock (`release`); otherwise the flip
      exact ⟨fun _ => ⟨fun _ _ => .stutter _ _ ht.symm rfl, fun _ => ⟨fun _ _ => .stutter _ _ ht.symm rfl,
        fun _ _ => .step _ _ ht rfl .release rfl⟩⟩, fun _ => okAll_plainR.1 (.of_fetchAdd (.step _ none ht rfl .flip rfl))⟩
    | colSpin cold ov S =>
      simp only [okAll_ite, okAll_plainR, okAll_guard, okAll_ok]
      exact ⟨fun _ _ => .stutter _ _ rfl rfl, fun _ _ =>
        ⟨fun _ hg => .step _ _ ht rfl (.spinOk cold ov S (by simpa using hg)) rfl, fun _ _ => .stutter _ _ rfl rfl⟩⟩
    | colMove cold ov todo taken S => exact colStep_acc ht

theorem TaskStep.claimed {k : Nat} {c c' : Hp.St} {t : Task} {t' : Option Task} (h : TaskStep k c t c' t') :
    c'.claimed = c.claimed ∨ ∃ o, t = .obsStart o ∧ c'.claimed = c.claimed ++ [o] := by
  cases h <;> first | exact .inl rfl | exact .inr ⟨_, rfl, rfl⟩

theorem Accepts.claimed {k : Nat} {c : Hp.St} {cuts : Cuts} {pc : Pc} {c' : Hp.St} {pc' : Pc} {rv : Option String}
    {cuts' : Cuts} (h : Accepts k c cuts pc ((c', pc', rv), cuts')) :
    c'.claimed = c.claimed ∨ ∃ o, pc.task = some (.obsStart o) ∧ c'.claimed = c.claimed ++ [o] := by
  cases h with
  | stutter => exact .inl rfl
  | step _ _ ht _ hs _ =>
    rcases hs.claimed with h | ⟨o, rfl, h⟩
    · exact .inl h
    · exact .inr ⟨o, ht, h⟩
  | skip _ _ _ hc => exact .inl (hc ▸ rfl)
  | unlock => exact .inl rfl

theorem planCall_shape {s : St} {op : String} {pc : Pc} (h : planCall s op = .ok (some pc)) :
    (pc.task = some (.obsStart (obsOfVals s.bounds (callVals op))) ∧ 1 ≤ (obsOfVals s.bounds (callVals op)).w ∧
        WfUpd s.bounds.length (obsOfVals s.bounds (callVals op)).upd ∧ pc.c0 = []) ∨
    (pc.task = some .colWant ∧ (pc.c0 = [] ∨ pc.c0 = s.core.claimed)) ∨ (pc.task = none ∧ pc.c0 = []) := by
  revert h
  suffices H : OkAll (fun r => r = some pc → _) (planCall s op) from fun h => H _ h rfl
  unfold planCall planObs
  simp only [okAll_ite, okAll_ok, okAll_error, Option.some.injEq, reduceCtorEq, false_implies, implies_true, and_true,
    true_and]
  -- the four holes, in the order of `planCall`'s branches: `obs` / `flush` (weight at least 1, cells in range),
  -- `collect`, `sum`, `count`
  refine ⟨fun _ _ hg => ?_, fun _ => ⟨?_, fun _ => ⟨?_, fun _ _ => ?_⟩⟩⟩
  · rintro rfl
    simp only [Bool.and_eq_true, decide_eq_true_eq, List.all_eq_true] at hg
    exact .inl ⟨rfl, hg.1, fun p hp => hg.2 p hp, rfl⟩
  · rintro _ rfl; exact .inr (.inl ⟨rfl, .inr rfl⟩)
  · rintro _ rfl; exact .inr (.inl ⟨rfl, .inl rfl⟩)
  · rintro rfl; exact .inr (.inr ⟨rfl, rfl⟩)

/-- **what an accepted item is**, and what it does to the thread it belongs to: an event of an open call, which
    is an `Accepts` (the call goes on, or - the event returned a value and the call's task is finished - it is complete);
    the call mark of a thread between calls (the operation is the one the program has at the thread's index; it
    performs no shared step, or opens the call `planCall` plans); or the return mark of a complete call -/
theorem item_cases {s s' : St} {it : Item} (h : item s it = .ok s') :
    (∃ (e : Ev) (th : Th Pc) (pc : Pc) (c' : Hp.St) (pc' : Pc) (rv : Option String) (cuts' : Cuts) (th' : Th Pc)
        (tg : List (Nat × Nat)), s.ths[e.tid]? = some th ∧ th.pc = some pc ∧
        Accepts s.bounds.length s.core s.cuts pc ((c', pc', rv), cuts') ∧
        s' = { s with core := c', cuts := cuts', ths := s.ths.set e.tid th', tags := tg } ∧
        ((rv = none ∧ th' = { th with pc := some pc' }) ∨
         ∃ v, rv = some v ∧ pc'.task = none ∧ th' = { th with pc := none, retv := some v }) ∧
        -- the tag list grows with `claimed`
        ((c'.claimed = s.core.claimed ∧ tg = s.tags) ∨
         ∃ o, pc.task = some (.obsStart o) ∧ c'.claimed = s.core.claimed ++ [o] ∧ tg = s.tags ++ [(e.tid, th.idx)])) ∨
    (∃ t th th', s.ths[t]? = some th ∧ s' = { s with ths := s.ths.set t th' } ∧
        ((th.pc = none ∧ th.retv = none ∧
            (th' = { th with retv := some "" } ∨
             ∃ pc, th' = { th with pc := some pc } ∧ planCall s (th.ops.getD th.idx "") = .ok (some pc))) ∨
         (∃ rv, th.retv = some rv ∧ th' = { th with idx := th.idx + 1, retv := none }))) := by
  revert s' h
  show OkAll _ (item s it)
  cases it with
  | ev e =>
    unfold item
    dsimp only
    cases hth : s.ths[e.tid]? with
    | none => exact okAll_error.2 trivial
    | some th =>
      dsimp only
      cases hpc : th.pc with
      | none => exact okAll_error.2 trivial
      | some pc =>
        dsimp only
        cases hev : evStep s.bounds.length s.core s.cuts e pc with
        | error m => exact okAll_error.2 trivial
        | ok r =>
          obtain ⟨⟨c', pc', rv⟩, cuts'⟩ := r
          have hacc := evStep_acc hev
          have htg : (c'.claimed = s.core.claimed ∧ (if c'.claimed.length > s.core.claimed.length then
                s.tags ++ [(e.tid, th.idx)] else s.tags) = s.tags) ∨
              ∃ o, pc.task = some (.obsStart o) ∧ c'.claimed = s.core.claimed ++ [o] ∧
                (if c'.claimed.length > s.core.claimed.length then s.tags ++ [(e.tid, th.idx)] else s.tags) =
                  s.tags ++ [(e.tid, th.idx)] := by
            rcases hacc.claimed with hcl | ⟨o, ho, hcl⟩
            · exact .inl ⟨hcl, by rw [hcl]; simp⟩
            · exact .inr ⟨o, ho, hcl, by rw [hcl]; simp⟩
          cases rv with
          | none => exact okAll_ok.2 (.inl ⟨e, th, pc, c', pc', none, cuts', _, _, hth, hpc, hacc, rfl, .inl ⟨rfl, rfl⟩, htg⟩)
          | some v =>
            simp only [okAll_ite, okAll_error, okAll_ok]
            exact ⟨fun _ => trivial, fun hn => .inl ⟨e, th, pc, c', pc', some v, cuts', _, _, hth, hpc, hacc, rfl,
              .inr ⟨v, rfl, by simpa using hn, rfl⟩, htg⟩⟩
  | call t i op =>
    unfold item
    dsimp only
    cases hth : s.ths[t]? with
    | none => exact okAll_error.2 trivial
    | some th =>
      cases hplan : planCall s op with
      | error m => exact okAll_error.2 trivial
      | ok plan =>
        simp only [okAll_ite, okAll_error, implies_true, true_and]
        intro hopen _ hop
        have hcc : th.pc = none ∧ th.retv = none := by
          simpa [Option.isSome_eq_false_iff, not_or] using hopen
        have hop' : th.ops.getD th.idx "" = op := by simpa using hop
        cases plan with
        | none => exact okAll_ok.2 (.inr ⟨t, th, _, hth, rfl, .inl ⟨hcc.1, hcc.2, .inl rfl⟩⟩)
        | some pc => exact okAll_ok.2 (.inr ⟨t, th, _, hth, rfl, .inl ⟨hcc.1, hcc.2, .inr ⟨pc, rfl, hop' ▸ hplan⟩⟩⟩)
  | ret t i v =>
    unfold item
    dsimp only
    cases hth : s.ths[t]? with
    | none => exact okAll_error.2 trivial
    | some th =>
      dsimp only
      cases hc : closeCall th i v with
      | error m => exact okAll_error.2 trivial
      | ok th' => exact okAll_ok.2 (.inr ⟨t, th, th', hth, rfl, .inr ⟨v, RT.closeCall_okAll _ _ _ th' hc⟩⟩)
  | other x => exact okAll_error.2 trivial

theorem Accepts.refines {k : Nat} {c : Hp.St} {cuts : Cuts} {pc : Pc} {c' : Hp.St} {pc' : Pc} {rv : Option String}
    {cuts' : Cuts} (h : Accepts k c cuts pc ((c', pc', rv), cuts')) (pre post : List Task) :
    withTasks c' (pre ++ (pc'.task.toList ++ post)) = withTasks c (pre ++ (pc.task.toList ++ post)) ∨
    Hp.Step k (withTasks c (pre ++ (pc.task.toList ++ post))) (withTasks c' (pre ++ (pc'.task.toList ++ post))) ∨
    ∃ ts, Hp.Step k (withTasks c (pre ++ (pc.task.toList ++ post))) (withTasks c ts) ∧
          Hp.Step k (withTasks c ts) (withTasks c' (pre ++ (pc'.task.toList ++ post))) := by
  cases h with
  | stutter _ _ ht _ => rw [ht]; exact .inl rfl
  | step _ _ ht _ hs _ => rw [ht]; exact .inr (.inl (hs.step pre post))
  | skip _ ht _ hc h1 h2 => rw [ht, hc]; exact .inr (.inr ⟨_, h1.step pre post, h2.step pre post⟩)
  | unlock cold ov taken S _ ht ht' _ => rw [ht, ht']; exact .inr (.inl ((TaskStep.unlock cold ov taken S).step pre post))

theorem item_refines {s s' : St} {it : Item} (h : item s it = .ok s') :
    s'.bounds = s.bounds ∧ (abs s' = abs s ∨ Hp.Step s.bounds.length (abs s) (abs s') ∨
      ∃ ts, Hp.Step s.bounds.length (abs s) (withTasks s.core ts) ∧
            Hp.Step s.bounds.length (withTasks s.core ts) (abs s')) := by
  rcases item_cases h with ⟨e, th, pc, c', pc', rv, cuts', th', tg, hth, hpc, hacc, rfl, hth', _⟩ |
      ⟨t, th, th', hth, rfl, hth'⟩
  · obtain ⟨pre, post, h1, h2⟩ := filterMap_set_split taskOf s.ths e.tid th th' hth
    have hT : taskOf th = pc.task := by simp [taskOf, hpc]
    have hT' : taskOf th' = pc'.task := by
      rcases hth' with ⟨_, rfl⟩ | ⟨v, _, hn, rfl⟩
      · rfl
      · exact hn.symm
    refine ⟨rfl, ?_⟩
    simp only [abs, h1, h2, hT, hT']
    exact hacc.refines pre post
  · obtain ⟨pre, post, h1, h2⟩ := filterMap_set_split taskOf s.ths t th th' hth
    refine ⟨rfl, ?_⟩
    simp only [abs, h1, h2]
    rcases hth' with ⟨hpc, _, rfl | ⟨pc, rfl, hplan⟩⟩ | ⟨rv, _, rfl⟩
    · exact .inl rfl
    · have hT : taskOf th = none := by simp [taskOf, hpc]
      have hT' : taskOf { th with pc := some pc } = pc.task := rfl
      rw [hT, hT']
      rcases planCall_shape hplan with ⟨ho, hw, hu, _⟩ | ⟨hc, _⟩ | ⟨hn, _⟩
      · rw [ho]; exact .inr (.inl (Step.spawnObs (withTasks s.core (pre ++ post)) pre post _ hw hu rfl))
      · rw [hc]; exact .inr (.inl (Step.spawnCol (withTasks s.core (pre ++ post)) pre post rfl))
      · rw [hn]; exact .inl rfl
    · exact .inl rfl

inductive MReach (bounds : List UInt64) (prog : List (List String)) : St → Prop
  | init : MReach bounds prog (init bounds prog)
  | step {s s' it} : MReach bounds prog s → item s it = .ok s' → MReach bounds prog s'

theorem mreach_bounds {bounds prog s} (h : MReach bounds prog s) : s.bounds = bounds := by
  induction h with
  | init => rfl
  | step _ hs ih => rw [(item_refines hs).1, ih]

theorem abs_init (bounds prog) : abs (init bounds prog) = Hp.init := by
  simp [abs, init, Hp.init, taskOf]

theorem mreach_reach {bounds prog s} (h : MReach bounds prog s) : Hp.Reach bounds.length (abs s) := by
  induction h with
  | init => rw [abs_init]; exact Reach.init
  | step hr hs ih =>
    have hb := mreach_bounds hr
    rcases (item_refines hs).2 with he | hst | ⟨ts, h1, h2⟩
    · rw [he]; exact ih
    · rw [hb] at hst; exact Reach.step ih hst
    · rw [hb] at h1 h2; exact Reach.step (Reach.step ih h1) h2

theorem MReach.of_run {bounds prog} {s s' : St} (hr : MReach bounds prog s) (h : RT.Run item s s') :
    MReach bounds prog s' := by
  induction h with
  | init => exact hr
  | step _ hs ih => exact .step ih hs

end Prom.HM
