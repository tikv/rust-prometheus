import Prom.Base.Fnv
/- The separator-terminated encoding is injective on strings that do not contain the separator. -/
namespace Prom

def NoSep (s : UInt8) (x : Str) : Prop := ∀ b ∈ x, b ≠ s
abbrev NoFF (x : Str) : Prop := NoSep 0xFF x

theorem noSep_cons {s c : UInt8} {x : Str} : NoSep s (c :: x) ↔ c ≠ s ∧ NoSep s x := List.forall_mem_cons

theorem noSep_append {s : UInt8} {a b : Str} : NoSep s (a ++ b) ↔ NoSep s a ∧ NoSep s b := List.forall_mem_append

theorem append_sep_inj (s : UInt8) : ∀ (x y r t : List UInt8), NoSep s x → NoSep s y →
    x ++ s :: r = y ++ s :: t → x = y ∧ r = t := by
  intro x y r t hx hy h
  -- `x` is what `takeWhile (· != s)` takes of `x ++ s :: r`
  have tw : ∀ {x r}, NoSep s x → (x ++ s :: r).takeWhile (· != s) = x := fun hx => by
    rw [List.takeWhile_append_of_pos fun b hb => bne_iff_ne.2 (hx b hb),
      List.takeWhile_cons_of_neg (by simp), List.append_nil]
  obtain rfl : x = y := by rw [← tw hx, h, tw hy]
  exact ⟨rfl, (List.cons_inj_right s).1 (List.append_cancel_left h)⟩

theorem sepEnc_inj (s : UInt8) : ∀ (xs ys : List Str), (∀ x ∈ xs, NoSep s x) → (∀ y ∈ ys, NoSep s y) →
    sepEnc s xs = sepEnc s ys → xs = ys := by
  intro xs
  induction xs with
  | nil =>
    intro ys _ _ h
    cases ys with
    | nil => rfl
    | cons y ys => simp [sepEnc] at h
  | cons x xs ih =>
    intro ys hx hy h
    cases ys with
    | nil => simp [sepEnc] at h
    | cons y ys =>
      simp only [sepEnc, List.flatMap_cons, List.append_assoc, List.singleton_append] at h
      rw [List.forall_mem_cons] at hx hy
      obtain ⟨rfl, ht⟩ := append_sep_inj s x y _ _ hx.1 hy.1 h
      rw [ih ys hx.2 hy.2 ht]

theorem sepEnc_inj_iff (s : UInt8) (xs ys : List Str) (hx : ∀ x ∈ xs, NoSep s x) (hy : ∀ y ∈ ys, NoSep s y) :
    sepEnc s xs = sepEnc s ys ↔ xs = ys :=
  ⟨sepEnc_inj s xs ys hx hy, fun h => h ▸ rfl⟩

end Prom
