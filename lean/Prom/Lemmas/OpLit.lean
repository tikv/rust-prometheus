import Prom.Model.Conc
import Std.Data.String.ToNat
/-
What the `simp` calls that run the example traces are given besides the machines' definitions. (1) Closed facts about
program words, marks and operands: `opName` / `opArg` go through `String.splitOn`, which reduces neither in `simp` nor in
the kernel - `splitFuel` is its loop with a counter, `splitFuel_eq` ties the two once (`String.toNat?`: `Nat.toNat?_repr`).
(2) `-getElem?_pos, List.getElem?_cons_zero, List.getElem?_cons_succ`: left alone, `simp` looks a thread up in a literal
list through `getElem?_pos`, whose side condition `t < length` costs a nested `simp` call and an arithmetic proof per lookup.
-/
namespace Prom.Conc

def splitFuel (s sep : String) : Nat → String.Pos.Raw → String.Pos.Raw → String.Pos.Raw → List String → Option (List String)
  | 0, _, _, _, _ => none
  | n + 1, b, i, j, r =>
    if String.Pos.Raw.atEnd s i then some ((String.Pos.Raw.extract s b i :: r).reverse)
    else if String.Pos.Raw.get s i == String.Pos.Raw.get sep j then
      let i := String.Pos.Raw.next s i
      let j := String.Pos.Raw.next sep j
      if String.Pos.Raw.atEnd sep j then splitFuel s sep n i i 0 (String.Pos.Raw.extract s b (i.unoffsetBy j) :: r)
      else splitFuel s sep n b i j r
    else splitFuel s sep n b (String.Pos.Raw.next s (i.unoffsetBy j)) 0 r

theorem splitFuel_eq {s sep : String} {n : Nat} {b i j : String.Pos.Raw} {r l : List String}
    (h : splitFuel s sep n b i j r = some l) : s.splitOnAux sep b i j r = l := by
  induction n generalizing b i j r with
  | zero => cases h
  | succ n ih =>
    rw [String.splitOnAux]
    simp only [splitFuel] at h
    split at h
    · next hc => rw [if_pos hc]; exact Option.some.inj h
    · next hc =>
      rw [if_neg hc]
      split at h
      · next hg =>
        rw [if_pos hg]
        split at h
        · next he => simp only []; rw [if_pos he]; exact ih h
        · next he => simp only []; rw [if_neg he]; exact ih h
      · next hg => rw [if_neg hg]; exact ih h

theorem splitOn_colon {s : String} {l : List String} (h : splitFuel s ":" 16 0 0 0 [] = some l) :
    s.splitOn ":" = l := by
  unfold String.splitOn
  rw [if_neg (by decide +kernel)]
  exact splitFuel_eq h

theorem opName_of_split {s : String} {l : List String} (h : s.splitOn ":" = l) : opName s = l.headD "" := by
  rw [opName, h]
theorem opArg_of_split {s : String} {l : List String} (h : s.splitOn ":" = l) : opArg s = (l.drop 1).headD "" := by
  rw [opArg, h]

theorem opName_get : opName "get" = "get" := opName_of_split (l := ["get"]) (splitOn_colon (by decide +kernel))
theorem opName_inc : opName "inc" = "inc" := opName_of_split (l := ["inc"]) (splitOn_colon (by decide +kernel))
theorem opName_reset : opName "reset" = "reset" := opName_of_split (l := ["reset"]) (splitOn_colon (by decide +kernel))
-- `Props/C11` restates the next two under its listed names `splitOn_set5`, `opName_set5`; `CellRuns.setSwap_run5` needs them here
theorem splitOn_set_5 : "set:5".splitOn ":" = ["set", "5"] := splitOn_colon (by decide +kernel)
theorem opName_set_5 : opName "set:5" = "set" := opName_of_split splitOn_set_5

theorem splitOn_with_a : "with:a".splitOn ":" = ["with", "a"] := splitOn_colon (by decide +kernel)
theorem splitOn_with_b : "with:b".splitOn ":" = ["with", "b"] := splitOn_colon (by decide +kernel)
theorem splitOn_rm_a : "rm:a".splitOn ":" = ["rm", "a"] := splitOn_colon (by decide +kernel)
theorem opName_with_a : opName "with:a" = "with" := opName_of_split splitOn_with_a
theorem opArg_with_a : opArg "with:a" = "a" := opArg_of_split splitOn_with_a
theorem opName_with_b : opName "with:b" = "with" := opName_of_split splitOn_with_b
theorem opArg_with_b : opArg "with:b" = "b" := opArg_of_split splitOn_with_b
theorem opName_rm_a : opName "rm:a" = "rm" := opName_of_split splitOn_rm_a
theorem opArg_rm_a : opArg "rm:a" = "a" := opArg_of_split splitOn_rm_a

theorem repr_0 : Nat.repr 0 = "0" := by decide +kernel
theorem repr_1 : Nat.repr 1 = "1" := by decide +kernel
theorem repr_2 : Nat.repr 2 = "2" := by decide +kernel
theorem repr_5 : Nat.repr 5 = "5" := by decide +kernel
theorem repr_6 : Nat.repr 6 = "6" := by decide +kernel
theorem repr_8 : Nat.repr 8 = "8" := by decide +kernel
theorem repr_9 : Nat.repr 9 = "9" := by decide +kernel
theorem repr_16 : Nat.repr 16 = "16" := by decide +kernel
/-- with this and the `repr` facts `simp` assembles the `diverge@<n>: …` message of a rejected run -/
theorem toString_str (s : String) : toString s = s := rfl
theorem toNat_0 : "0".toNat? = some 0 := by rw [← repr_0]; exact Nat.toNat?_repr 0
theorem endsWith_0u : "0u".endsWith "u" = true := by decide +kernel
theorem endsWith_0 : "0".endsWith "u" = false := by decide +kernel
theorem endsWith_1 : "1".endsWith "u" = false := by decide +kernel

theorem u64OfInt_one : u64OfInt 1 = 1 := by decide +kernel
theorem u64OfInt_zero : u64OfInt 0 = 0 := by decide +kernel
theorem hexStr_one : hexStr 1 = "1" := by decide +kernel
theorem hexStr_zero : hexStr 0 = "0" := by decide +kernel
theorem hexStr_two : hexStr 2 = "2" := by decide +kernel

theorem specApply_inc_lit (v : UInt64) : specApply false v "inc" = some (v + 1, "") := by
  simp [specApply, isSubOp, intDelta, opName_inc, u64OfInt_one]

theorem specApply_reset_lit (v : UInt64) : specApply false v "reset" = some (0, "") := by
  simp [specApply, opName_reset, u64OfInt_zero]

theorem specApply_get_lit (float : Bool) (v : UInt64) : specApply float v "get" = some (v, hexStr v) := by
  simp [specApply, opName_get]

end Prom.Conc
