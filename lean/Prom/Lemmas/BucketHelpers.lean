import Prom.Lemmas.NoPanic
/-
The bucket helper functions `linear_buckets` / `exponential_buckets` (`Model/Histogram.lean`:
`linearBuckets`, `exponentialBuckets`) with their argument checks as one disjunction (`linearBuckets_eq`,
`exponentialBuckets_eq`), the push loop `expLoop`, and their panic-explicit versions
(`Model/Fallible.lean`) as the plain result followed by the capacity request (`capOutcome`).
-/
namespace Prom.C17

theorem expLoop_length (factor : UInt64) : ∀ (n : Nat) (next : UInt64), (expLoop factor n next).length = n := by
  intro n
  induction n with
  | zero => intro _; rfl
  | succ k ih => intro next; simp only [expLoop, List.length_cons, ih]

theorem expLoop_head (factor : UInt64) (n : Nat) (next : UInt64) :
    (expLoop factor (n + 1) next)[0]? = some next := rfl

theorem expLoop_getElem?_succ (factor : UInt64) (n : Nat) (next : UInt64) (i : Nat) :
    (expLoop factor (n + 1) next)[i + 1]? = (expLoop factor n (f64Mul next factor))[i]? := rfl

theorem expLoop_step (factor : UInt64) : ∀ (n : Nat) (next : UInt64) (i : Nat) (a : UInt64),
    i + 1 < n → (expLoop factor n next)[i]? = some a → (expLoop factor n next)[i + 1]? = some (f64Mul a factor) := by
  intro n
  induction n with
  | zero => intro _ i _ h; omega
  | succ k ih =>
    intro next i a hi ha
    cases i with
    | zero =>
      cases k with
      | zero => omega
      | succ k' => rw [expLoop_head] at ha; cases ha; rfl
    | succ j =>
      rw [expLoop_getElem?_succ] at ha ⊢
      exact ih _ j a (by omega) ha

theorem linearBuckets_eq (start width : UInt64) (count : Nat) :
    linearBuckets start width count =
      if count < 1 ∨ f64Le width f64Zero = true then none
      else some ((List.range count).map fun step => f64Add start (f64Mul width (f64OfNat step))) := by
  rw [linearBuckets, ite_or]

theorem exponentialBuckets_eq (start factor : UInt64) (count : Nat) :
    exponentialBuckets start factor count =
      if count < 1 ∨ f64Le start f64Zero = true ∨ f64Le factor f64One = true then none
      else some (expLoop factor count start) := by
  rw [exponentialBuckets, ite_or, ite_or]

/-- `Err` if the argument checks fail; else the capacity request for `count` 8-byte elements decides -/
def capOutcome {α} (count : Nat) : Option α → Outcome α
  | none => .err
  | some l => if count < 2 ^ 60 then .ok l else .panic

theorem capOutcome_eq_ofOption {α} {count : Nat} (hb : count < 2 ^ 60) (r : Option α) :
    capOutcome count r = Outcome.ofOption r := by
  cases r <;> simp [capOutcome, Outcome.ofOption, hb]

theorem capOutcome_isPanic {α} (count : Nat) (r : Option α) :
    (capOutcome count r).isPanic = true ↔ 2 ^ 60 ≤ count ∧ r ≠ none := by
  cases r with
  | none => simp [capOutcome, Outcome.isPanic]
  | some l => by_cases hb : count < 2 ^ 60 <;> simp [capOutcome, Outcome.isPanic, hb] <;> omega

theorem capOutcome_err {α} (count : Nat) (r : Option α) : capOutcome count r = .err ↔ r = none := by
  cases r with
  | none => simp [capOutcome]
  | some l => by_cases hb : count < 2 ^ 60 <;> simp [capOutcome, hb]

/-- the capacity request of a bucket vector (`8 * count` bytes) overflows from `count = 2^60` on -/
theorem vecWithCapacityP_bind_ok {α} (count : Nat) (x : α) :
    (vecWithCapacityP 8 count).bind (fun _ => .ok x) = capOutcome count (some x) := by
  unfold vecWithCapacityP isizeMax
  show _ = if count < 2 ^ 60 then _ else _
  by_cases h : count < 2 ^ 60
  · rw [if_pos h, if_pos (by omega)]; rfl
  · rw [if_neg h, if_neg (by omega)]; rfl

theorem linearBucketsP_cap (start width : UInt64) (count : Nat) :
    linearBucketsP start width count = capOutcome count (linearBuckets start width count) := by
  unfold linearBucketsP linearBuckets
  rw [vecWithCapacityP_bind_ok]
  simp only [apply_ite (capOutcome count)]
  rfl

theorem exponentialBucketsP_cap (start factor : UInt64) (count : Nat) :
    exponentialBucketsP start factor count = capOutcome count (exponentialBuckets start factor count) := by
  unfold exponentialBucketsP exponentialBuckets
  rw [vecWithCapacityP_bind_ok]
  simp only [apply_ite (capOutcome count)]
  rfl

end Prom.C17
