import Prom.Lemmas.SepEnc
/- UTF-8 (Lean core's `String.utf8EncodeChar`, the standard encoder), byte by byte: an ASCII character is
   its own byte, every byte of another character lies in 0x80 … 0xF7; so no string contains the separator
   0xFF, and byte-level ASCII tests agree with character-level ones. -/
namespace Prom

theorem utf8EncodeChar_bytes (c : Char) :
    (c.toNat < 128 ∧ String.utf8EncodeChar c = [UInt8.ofNat c.toNat]) ∨
    (¬ c.toNat < 128 ∧ ∀ b ∈ String.utf8EncodeChar c, 128 ≤ b.toNat ∧ b.toNat ≤ 247) := by
  -- every byte has the form `x % m + base` with `128 ≤ base` and `base + m ≤ 248`
  have byte : ∀ (x m base : Nat), 0 < m → 128 ≤ base → base + m ≤ 248 →
      128 ≤ (UInt8.ofNat (x % m + base)).toNat ∧ (UInt8.ofNat (x % m + base)).toNat ≤ 247 := by
    intro x m base hm h1 h2
    have := Nat.mod_lt x hm
    rw [UInt8.toNat_ofNat', Nat.mod_eq_of_lt (by omega)]
    omega
  have cont := fun x => byte x 64 128 (by decide) (by decide) (by decide)
  fun_cases String.utf8EncodeChar c with
  | case1 v hv => exact Or.inl ⟨Nat.lt_succ_of_le hv, rfl⟩
  | case2 v hv _ =>
    refine Or.inr ⟨fun h => hv (Nat.le_of_lt_succ h), ?_⟩
    simp only [List.mem_cons, List.not_mem_nil, or_false, forall_eq_or_imp, forall_eq]
    exact ⟨byte _ 32 192 (by decide) (by decide) (by decide), cont _⟩
  | case3 v hv _ _ =>
    refine Or.inr ⟨fun h => hv (Nat.le_of_lt_succ h), ?_⟩
    simp only [List.mem_cons, List.not_mem_nil, or_false, forall_eq_or_imp, forall_eq]
    exact ⟨byte _ 16 224 (by decide) (by decide) (by decide), cont _, cont _⟩
  | case4 v hv _ _ =>
    refine Or.inr ⟨fun h => hv (Nat.le_of_lt_succ h), ?_⟩
    simp only [List.mem_cons, List.not_mem_nil, or_false, forall_eq_or_imp, forall_eq]
    exact ⟨byte _ 8 240 (by decide) (by decide) (by decide), cont _, cont _, cont _⟩

theorem utf8_char_noFF (c : Char) : ∀ b ∈ String.utf8EncodeChar c, b ≠ 0xFF := by
  intro b hb e
  have hff : b.toNat = 255 := by rw [e]; rfl
  rcases utf8EncodeChar_bytes c with ⟨hv, he⟩ | ⟨_, h⟩
  · rw [he, List.mem_singleton] at hb
    rw [hb, UInt8.toNat_ofNat', Nat.mod_eq_of_lt (by omega)] at hff
    omega
  · have := (h b hb).2; omega

/-- every UTF-8 string (the encoding of any list of Unicode scalar values) is free of 0xFF:
    `SEPARATOR_BYTE` really separates. -/
theorem utf8_noFF (cs : List Char) : NoFF (cs.flatMap String.utf8EncodeChar) := by
  intro b hb
  rw [List.mem_flatMap] at hb
  obtain ⟨c, _, hc⟩ := hb
  exact utf8_char_noFF c b hc

/-- a byte below 0x80 in a UTF-8 string is a whole ASCII character: byte-level ASCII tests agree with character-level ones -/
theorem utf8_char_ascii (c : Char) (b : UInt8) (hb : b ∈ String.utf8EncodeChar c) (h : b < 0x80) :
    String.utf8EncodeChar c = [b] ∧ b.toNat = c.val.toNat := by
  have hlt : b.toNat < 128 := UInt8.lt_iff_toNat_lt.1 h
  rcases utf8EncodeChar_bytes c with ⟨hv, he⟩ | ⟨_, h'⟩
  · rw [he, List.mem_singleton] at hb
    exact ⟨by rw [he, hb], by rw [hb, UInt8.toNat_ofNat', Nat.mod_eq_of_lt (by omega)]; rfl⟩
  · have := (h' b hb).1; omega

end Prom
