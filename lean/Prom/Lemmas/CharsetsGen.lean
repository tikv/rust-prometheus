import Prom.Gen.Charsets
import Prom.Model.Desc
import Prom.Lemmas.Utf8
/-
The character classes translated from src/desc.rs (`Prom/Gen/Charsets.lean`, written by translate/charsets.py, over
`Char`) agree with the byte-level model `Prom/Model/Desc.lean`: each generated predicate IS a byte class of the model
read on characters (`lift P`: the ASCII characters whose byte is in `P`; `label_first_eq` …). For a class `P` of ASCII
bytes, scanning the characters with `lift P` is scanning the UTF-8 bytes with `P` (`enc_lift`), also when the bytes are
turned into characters first (`lift_byteChar`): `Gen.genIdentOk` is `isValidIdent` for either scan (`ident_src_lift`).
-/
namespace Prom.CharsetsGen

def AsciiOnly (P : UInt8 → Bool) : Prop := ∀ b, P b = true → b < 0x80

theorem AsciiOnly.mono {P P' : UInt8 → Bool} (h : AsciiOnly P') (hs : ∀ b, P b = true → P' b = true) : AsciiOnly P :=
  fun b hb => h b (hs b hb)

theorem AsciiOnly.left {P Q : UInt8 → Bool} (h : AsciiOnly fun b => P b || Q b) : AsciiOnly P :=
  h.mono fun b hb => by show (P b || Q b) = true; rw [hb]; rfl

/-- the byte class `P` read on characters: the ASCII characters whose byte is in `P` -/
def lift (P : UInt8 → Bool) (c : Char) : Bool := decide (c.toNat < 128) && P (UInt8.ofNat c.toNat)

theorem lift_iff {P : UInt8 → Bool} {c : Char} :
    lift P c = true ↔ c.toNat < 128 ∧ P (UInt8.ofNat c.toNat) = true := by
  rw [lift, Bool.and_eq_true, decide_eq_true_eq]

/-- the encoding of `c` begins with a byte of the ASCII-only class `P` exactly when `c` is in `lift P`, and
    is then that byte alone -/
theorem enc_lift {P : UInt8 → Bool} (hP : AsciiOnly P) (c : Char) :
    ∃ b t, String.utf8EncodeChar c = b :: t ∧ P b = lift P c ∧ (P b = true → t = []) := by
  rcases utf8EncodeChar_bytes c with ⟨hv, he⟩ | ⟨hv, h⟩
  · exact ⟨_, [], he, by rw [lift, decide_eq_true hv, Bool.true_and], fun _ => rfl⟩
  · cases he : String.utf8EncodeChar c with
    | nil => exact absurd he String.utf8EncodeChar_ne_nil
    | cons b t =>
      -- a leading byte ≥ 0x80 is not in `P`, and `c` is not ASCII
      have hb : P b = false := Bool.eq_false_iff.2 fun hp =>
        Nat.not_lt.2 (h b (he ▸ List.mem_cons_self)).1 (UInt8.lt_iff_toNat_lt.1 (hP b hp))
      exact ⟨b, t, rfl, by rw [hb, lift, decide_eq_false hv, Bool.false_and], fun hp => Bool.noConfusion (hb ▸ hp)⟩

theorem all_enc {P : UInt8 → Bool} (hP : AsciiOnly P) (cs : List Char) :
    (cs.flatMap String.utf8EncodeChar).all P = cs.all (lift P) := by
  rw [List.all_flatMap]
  refine List.all_congr rfl fun c => ?_
  obtain ⟨b, t, he, hb, ht⟩ := enc_lift hP c
  rw [he, List.all_cons, ← hb]
  cases hPb : P b
  · rfl
  · rw [ht hPb]; rfl

/-- the control shape of `is_valid_ident` as translated -/
theorem genIdentOk_cons (first rest : Char → Bool) (c : Char) (r : List Char) :
    Gen.genIdentOk first rest (c :: r) = (first c && r.all rest) := rfl

theorem ident_lift (start : UInt8 → Bool) (hR : AsciiOnly fun b => start b || isAsciiDigit b) (cs : List Char) :
    Gen.genIdentOk (lift start) (lift fun b => start b || isAsciiDigit b) cs
      = isValidIdent start (cs.flatMap String.utf8EncodeChar) := by
  cases cs with
  | nil => rfl
  | cons c r =>
    obtain ⟨b, t, he, hb, ht⟩ := enc_lift hR.left c
    rw [genIdentOk_cons, List.flatMap_cons, he, List.cons_append, isValidIdent, List.all_append, all_enc hR r, hb]
    cases hs : lift start c
    · rfl
    · rw [ht (hb.trans hs)]; rfl

/-- Rust's `char::from(b: u8)`: the scalar value U+0000..U+00FF with the value of the byte -/
def byteChar (b : UInt8) : Char := Char.ofNat b.toNat

theorem byteChar_toNat (b : UInt8) : (byteChar b).toNat = b.toNat := by
  have hb := b.toNat_lt
  have hv : Nat.isValidChar b.toNat := Or.inl (by omega)
  unfold byteChar
  rw [Char.ofNat, dif_pos hv]
  rfl

theorem lift_byteChar {P : UInt8 → Bool} (hP : AsciiOnly P) (b : UInt8) : lift P (byteChar b) = P b := by
  rw [lift, byteChar_toNat, UInt8.ofNat_toNat]
  cases hb : P b
  · exact Bool.and_false _
  · rw [decide_eq_true (show b.toNat < 128 from UInt8.lt_iff_toNat_lt.1 (hP b hb))]; rfl

theorem ident_lift_bytes (start : UInt8 → Bool) (hR : AsciiOnly fun b => start b || isAsciiDigit b) (bs : Str) :
    Gen.genIdentOk (lift start) (lift fun b => start b || isAsciiDigit b) (bs.map byteChar) = isValidIdent start bs := by
  cases bs with
  | nil => rfl
  | cons b r =>
    rw [List.map_cons, genIdentOk_cons, isValidIdent, lift_byteChar hR.left, List.all_map]
    exact congrArg _ (List.all_congr rfl (lift_byteChar hR))

/-- the list `input.bytes().map(char::from)` iterates over, for the string with the characters `cs` -/
def bytesAsChars (cs : List Char) : List Char := (cs.flatMap String.utf8EncodeChar).map byteChar

/-- **what the source computes on the string with the characters `cs`**: the generated control shape
    over `input.bytes().map(char::from)` or over `input.chars()`, as the translator found it
    (`Gen.identScansBytes`) -/
def genIdentOkSrc (first rest : Char → Bool) (cs : List Char) : Bool :=
  if Gen.identScansBytes then Gen.genIdentOk first rest (bytesAsChars cs) else Gen.genIdentOk first rest cs

theorem ident_src_lift (start : UInt8 → Bool) (hR : AsciiOnly fun b => start b || isAsciiDigit b) (cs : List Char) :
    genIdentOkSrc (lift start) (lift fun b => start b || isAsciiDigit b) cs
      = isValidIdent start (cs.flatMap String.utf8EncodeChar) := by
  unfold genIdentOkSrc
  split
  · exact ident_lift_bytes start hR _
  · exact ident_lift start hR cs

/-- the largest class, `[a-zA-Z0-9_:]`, lies below 0x80 (its greatest member is `z` = 0x7A); the label
    class is part of it -/
theorem metricRest_asciiOnly : AsciiOnly (fun b => metricStart b || isAsciiDigit b) := by
  intro b
  simp only [metricStart, labelStart, isAsciiAlpha, isAsciiDigit, Bool.or_eq_true, Bool.and_eq_true,
    decide_eq_true_eq, beq_iff_eq, UInt8.le_iff_toNat_le, UInt8.lt_iff_toNat_lt, ← UInt8.toNat_inj, UInt8.toNat_ofNat]
  omega

theorem labelRest_asciiOnly : AsciiOnly (fun b => labelStart b || isAsciiDigit b) :=
  metricRest_asciiOnly.mono fun b h => by
    rcases Bool.or_eq_true _ _ ▸ h with h | h <;> simp [metricStart, h]

/-- above the ASCII range every range / equality test of the generated predicates fails (this half unfolds the
    generated definitions by name: it does follow their shape) -/
theorem hi_false (c : Char) (h : ¬ c.toNat < 128) :
    Gen.genLabelFirstOk c = false ∧ Gen.genLabelRestOk c = false ∧
    Gen.genMetricFirstOk c = false ∧ Gen.genMetricRestOk c = false := by
  simp only [Gen.genLabelFirstOk, Gen.genLabelRestOk, Gen.genMetricFirstOk, Gen.genMetricRestOk,
    Gen.genFirstBody, Gen.genRestBody, Gen.matches_charset_with_colon, Gen.matches_charset_without_colon,
    Bool.or_eq_false_iff, Bool.and_eq_false_iff, decide_eq_false_iff_not, beq_eq_false_iff_ne, ne_eq]
  omega

/-- on the 128 ASCII code points each generated predicate is the model's byte class (one evaluation
    for the four; evaluated, so that on this half the shape of the generated terms does not matter) -/
theorem lo_agree : ∀ n : Fin 128,
    Gen.genLabelFirstOk (Char.ofNat n.val) = labelStart (UInt8.ofNat n.val) ∧
    Gen.genLabelRestOk (Char.ofNat n.val) = (labelStart (UInt8.ofNat n.val) || isAsciiDigit (UInt8.ofNat n.val)) ∧
    Gen.genMetricFirstOk (Char.ofNat n.val) = metricStart (UInt8.ofNat n.val) ∧
    Gen.genMetricRestOk (Char.ofNat n.val) = (metricStart (UInt8.ofNat n.val) || isAsciiDigit (UInt8.ofNat n.val)) := by
  decide +kernel

theorem eq_lift_of_fin (Q : Char → Bool) (P : UInt8 → Bool)
    (hlo : ∀ n : Fin 128, Q (Char.ofNat n.val) = P (UInt8.ofNat n.val))
    (hhi : ∀ c : Char, ¬ c.toNat < 128 → Q c = false) : Q = lift P := by
  funext c
  by_cases h : c.toNat < 128
  · have := hlo ⟨c.toNat, h⟩
    rw [Char.ofNat_toNat] at this
    rw [this, lift, decide_eq_true h, Bool.true_and]
  · rw [hhi c h, lift, decide_eq_false h, Bool.false_and]

/-- `[a-zA-Z_]` translated from the source = `labelStart` on ASCII, nothing else -/
theorem label_first_eq : Gen.genLabelFirstOk = lift labelStart :=
  eq_lift_of_fin _ _ (fun n => (lo_agree n).1) fun c h => (hi_false c h).1

theorem label_rest_eq : Gen.genLabelRestOk = lift fun b => labelStart b || isAsciiDigit b :=
  eq_lift_of_fin _ _ (fun n => (lo_agree n).2.1) fun c h => (hi_false c h).2.1

theorem metric_first_eq : Gen.genMetricFirstOk = lift metricStart :=
  eq_lift_of_fin _ _ (fun n => (lo_agree n).2.2.1) fun c h => (hi_false c h).2.2.1

theorem metric_rest_eq : Gen.genMetricRestOk = lift fun b => metricStart b || isAsciiDigit b :=
  eq_lift_of_fin _ _ (fun n => (lo_agree n).2.2.2) fun c h => (hi_false c h).2.2.2

/-- the scan of the characters (`input.chars()`); `C09.generated_metric_ident_agrees` is this for whichever scan the source uses -/
theorem metric_ident_agrees (cs : List Char) :
    Gen.genIdentOk Gen.genMetricFirstOk Gen.genMetricRestOk cs
      = isValidMetricName (cs.flatMap String.utf8EncodeChar) := by
  rw [metric_first_eq, metric_rest_eq]
  exact ident_lift metricStart metricRest_asciiOnly cs

/-- the scan of the characters (`input.chars()`); `C09.generated_label_ident_agrees` is this for whichever scan the source uses -/
theorem label_ident_agrees (cs : List Char) :
    Gen.genIdentOk Gen.genLabelFirstOk Gen.genLabelRestOk cs
      = isValidLabelName (cs.flatMap String.utf8EncodeChar) := by
  rw [label_first_eq, label_rest_eq]
  exact ident_lift labelStart labelRest_asciiOnly cs

end Prom.CharsetsGen
