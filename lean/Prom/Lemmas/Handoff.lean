import Prom.Model.Conc
/-
The release/acquire hand-off ("message passing through a counter that is only ever modified by read-modify-writes")
on a trace in SC order. The replay machines interpret a trace as a sequentially consistent interleaving; what the
C++/Rust memory model adds is whether the Relaxed writes a thread made BEFORE it published HAPPEN-BEFORE what another
thread does AFTER it saw the publication. The order of the trace is taken as the modification order of every location,
and a read reads the last write before it; on that stand `po`, `rf`, release sequences (C++20), `sw` and
`hb` = (po ∪ sw)⁺. Fences and consume are not modelled (the code under study uses neither). The last block
(`ordGe_release_eq` … `ofEv_read_only`) leads from what the machines check, `ordGe` and event kinds, to the flags
of `ofEv`.
-/
namespace Prom.Handoff

/-- one memory event: who, where, whether it reads / writes (an RMW does both), and whether its
    ordering has release (Release/AcqRel/SeqCst) resp. acquire (Acquire/AcqRel/SeqCst) semantics -/
structure MEv where
  tid : Nat
  loc : String
  rd : Bool
  wr : Bool
  rel : Bool
  acq : Bool
deriving DecidableEq, Repr

def relOrd (o : String) : Bool := o == "Release" || o == "AcqRel" || o == "SeqCst"
def acqOrd (o : String) : Bool := o == "Acquire" || o == "AcqRel" || o == "SeqCst"

/-- the memory event of a trace event. Loads read; stores write; fetch_add / fetch_sub / swap and a
    SUCCESSFUL compare-exchange are RMWs; a FAILED compare-exchange is a read only, and because the
    trace records the success ordering only (the failure ordering is a separate argument of the real
    call) it is conservatively given no acquire semantics. Lock events (K/k, R/r, X/x) are not memory
    events of this model: they neither read nor write. -/
def ofEv (e : Conc.Ev) : MEv :=
  { tid := e.tid
    loc := e.loc
    rd := e.k == "L" || e.k == "A" || e.k == "U" || e.k == "W" || e.k == "C"
    wr := e.k == "S" || e.k == "A" || e.k == "U" || e.k == "W" || (e.k == "C" && e.ok)
    rel := relOrd e.ord
    acq := acqOrd e.ord && !(e.k == "C" && !e.ok) }

/-- program order: same thread, earlier in the trace -/
def po (tr : List MEv) (i j : Nat) : Prop :=
  i < j ∧ ∃ a b, tr[i]? = some a ∧ tr[j]? = some b ∧ a.tid = b.tid

def isWr (tr : List MEv) (l : String) (k : Nat) : Bool :=
  match tr[k]? with
  | some e => e.wr && decide (e.loc = l)
  | none => false

def isRMW (tr : List MEv) (k : Nat) : Bool :=
  match tr[k]? with
  | some e => e.rd && e.wr
  | none => false

/-- the last write to `l` strictly before position `j` (`none`: the initial value is still there) -/
def lastWr (tr : List MEv) (l : String) : Nat → Option Nat
  | 0 => none
  | j + 1 => if isWr tr l j then some j else lastWr tr l j

/-- reads-from: a reading event at `j` reads the last write to its location before `j` -/
def rf (tr : List MEv) (j : Nat) : Option Nat :=
  match tr[j]? with
  | some e => if e.rd then lastWr tr e.loc j else none
  | none => none

/-- `w` belongs to the release sequence headed by `i` (C++20 [intro.races]/5): `i` is a release write,
    `w` is `i` or a later write to the same location, and every write to that location after `i` up
    to and including `w` is a read-modify-write -/
def inRelSeq (tr : List MEv) (i w : Nat) : Prop :=
  ∃ h, tr[i]? = some h ∧ h.wr = true ∧ h.rel = true ∧ i ≤ w ∧ isWr tr h.loc w = true ∧
    ∀ k, i < k → k ≤ w → isWr tr h.loc k = true → isRMW tr k = true

/-- synchronizes-with: `j` is an acquire read that reads from a member of the release sequence
    headed by the release write `i` -/
def sw (tr : List MEv) (i j : Nat) : Prop :=
  ∃ a w, tr[j]? = some a ∧ a.rd = true ∧ a.acq = true ∧ rf tr j = some w ∧ inRelSeq tr i w

/-- happens-before: the transitive closure of program order and synchronizes-with -/
inductive hb (tr : List MEv) : Nat → Nat → Prop
  | po {i j} : po tr i j → hb tr i j
  | sw {i j} : sw tr i j → hb tr i j
  | trans {i j k} : hb tr i j → hb tr j k → hb tr i k

theorem isWr_iff {tr : List MEv} {l : String} {k : Nat} :
    isWr tr l k = true ↔ ∃ e, tr[k]? = some e ∧ e.wr = true ∧ e.loc = l := by
  unfold isWr
  cases he : tr[k]? <;> simp

theorem isRMW_iff {tr : List MEv} {k : Nat} :
    isRMW tr k = true ↔ ∃ e, tr[k]? = some e ∧ e.rd = true ∧ e.wr = true := by
  unfold isRMW
  cases he : tr[k]? <;> simp

theorem lastWr_some {tr : List MEv} {l : String} {j w : Nat} (h : lastWr tr l j = some w) :
    w < j ∧ isWr tr l w = true := by
  induction j with
  | zero => cases h
  | succ j ih =>
    rw [lastWr] at h
    split at h
    · next hj => cases h; exact ⟨Nat.lt_succ_self _, hj⟩
    · exact ⟨Nat.lt_succ_of_lt (ih h).1, (ih h).2⟩

/-- the search returns the greatest write below `j`: at or above every write below `j` -/
theorem lastWr_ge {tr : List MEv} {l : String} {p j : Nat} (hpj : p < j) (hp : isWr tr l p = true) :
    ∃ w, lastWr tr l j = some w ∧ p ≤ w ∧ isWr tr l w = true := by
  induction j with
  | zero => cases hpj
  | succ j ih =>
    rw [lastWr]
    split
    · next hj => exact ⟨j, rfl, Nat.le_of_lt_succ hpj, hj⟩
    · next hj =>
      -- `p` holds a write and `j` does not: `p < j`
      exact ih (Nat.lt_of_le_of_ne (Nat.le_of_lt_succ hpj) fun e => hj (e ▸ hp))

theorem rf_of_read {tr : List MEv} {j : Nat} {e : MEv} (he : tr[j]? = some e) (hr : e.rd = true) :
    rf tr j = lastWr tr e.loc j := by
  simp only [rf, he, hr, if_true]

theorem po_trans {tr : List MEv} {i j k : Nat} (h1 : po tr i j) (h2 : po tr j k) : po tr i k := by
  obtain ⟨hij, a, b, ha, hb, hab⟩ := h1
  obtain ⟨hjk, b', c, hb', hc, hbc⟩ := h2
  rw [hb] at hb'; cases hb'
  exact ⟨by omega, a, c, ha, hc, hab.trans hbc⟩

/-- what a synchronizes-with edge needs: an earlier release write and a later acquire read of one location -/
theorem sw_imp {tr : List MEv} {i j : Nat} (h : sw tr i j) :
    i < j ∧ ∃ ei ej, tr[i]? = some ei ∧ tr[j]? = some ej ∧ ei.wr = true ∧ ei.rel = true ∧
      ej.rd = true ∧ ej.acq = true ∧ ei.loc = ej.loc := by
  obtain ⟨a, w, hj, hrd, hacq, hrf, hd, hi, hwr, hrel, hiw, hw, _⟩ := h
  rw [rf_of_read hj hrd] at hrf
  obtain ⟨hwj, hw'⟩ := lastWr_some hrf
  -- `w` holds a write to the location of the head and to the location `j` reads
  obtain ⟨x, hx, _, hx1⟩ := isWr_iff.mp hw
  obtain ⟨y, hy, _, hy1⟩ := isWr_iff.mp hw'
  rw [hx] at hy; cases hy
  exact ⟨Nat.lt_of_le_of_lt hiw hwj, hd, a, hi, hj, hwr, hrel, hrd, hacq, hx1.symm.trans hy1⟩

/-- happens-before is contained in the trace order (so it is irreflexive: the SC interleaving is
    consistent with it) -/
theorem hb_lt {tr : List MEv} {i j : Nat} (h : hb tr i j) : i < j := by
  induction h with
  | po h => exact h.1
  | sw h => exact (sw_imp h).1
  | trans _ _ ih1 ih2 => omega

theorem hb_iff_po_of_no_sw {tr : List MEv} (hs : ∀ i j, ¬ sw tr i j) {i j : Nat} : hb tr i j ↔ po tr i j := by
  refine ⟨fun h => ?_, .po⟩
  induction h with
  | po h => exact h
  | sw h => exact absurd h (hs _ _)
  | trans _ _ ih1 ih2 => exact po_trans ih1 ih2

/-- the edge itself. Only the writes to `c` strictly between `p` and `a` have to be RMWs: they continue the release
    sequence headed by `p`, which may itself be a plain release store. -/
theorem handoff_sw {tr : List MEv} {c : String} {p a : Nat} {ep ea : MEv}
    (hc : ∀ (k : Nat) (e : MEv), p < k → k < a → tr[k]? = some e → e.loc = c → e.wr = true → e.rd = true)
    (hpa : p < a)
    (hp : tr[p]? = some ep) (hpl : ep.loc = c) (hpw : ep.wr = true) (hprel : ep.rel = true)
    (ha : tr[a]? = some ea) (hal : ea.loc = c) (hard : ea.rd = true) (haacq : ea.acq = true) : sw tr p a := by
  -- the value read at `a` was written by a member `w` of the release sequence headed by `p`
  obtain ⟨w, hw, hpw', hwW⟩ := lastWr_ge hpa (isWr_iff.mpr ⟨ep, hp, hpw, hpl⟩)
  refine ⟨ea, w, ha, hard, haacq, by rw [rf_of_read ha hard, hal]; exact hw, ep, hp, hpw, hprel, hpw',
    by rw [hpl]; exact hwW, fun k h1 h2 hk => ?_⟩
  rw [hpl] at hk
  obtain ⟨e, he, hew, hel⟩ := isWr_iff.mp hk
  exact isRMW_iff.mpr ⟨e, he, hc k e h1 (Nat.lt_of_le_of_lt h2 (lastWr_some hw).1) he hel hew, hew⟩

/-- the hand-off through a counter that is only ever modified by RMWs: `handoff_sw`, and what `hb` then orders around
    `p` and `a`. What it means for the histogram is said at `C02.handoff_hb` (same statement). -/
theorem handoff_hb {tr : List MEv} {c : String} {p a : Nat} {ep ea : MEv}
    (hc : ∀ (k : Nat) (e : MEv), tr[k]? = some e → e.loc = c → e.wr = true → e.rd = true)
    (hpa : p < a)
    (hp : tr[p]? = some ep) (hpl : ep.loc = c) (hpw : ep.wr = true) (hprel : ep.rel = true)
    (ha : tr[a]? = some ea) (hal : ea.loc = c) (hard : ea.rd = true) (haacq : ea.acq = true) :
    sw tr p a ∧
    (∀ e f, po tr e p → po tr a f → hb tr e f) ∧
    (∀ e, po tr e p → hb tr e a) ∧ (∀ f, po tr a f → hb tr p f) := by
  have hsw := handoff_sw (fun k e _ _ => hc k e) hpa hp hpl hpw hprel ha hal hard haacq
  exact ⟨hsw, fun e f he hf => .trans (.trans (.po he) (.sw hsw)) (.po hf),
    fun e he => .trans (.po he) (.sw hsw), fun f hf => .trans (.sw hsw) (.po hf)⟩

/-! ### the orderings are needed: two four-event traces

Both use the events of the real histogram code (`observe`: `fetch_add` Relaxed on a bucket, then the
publish `fetch_add` on the shard's count; `collect`: the spin compare-exchange on the count, then a
`swap` AcqRel of the bucket) with ONE ordering weakened. -/

/-- the trace with the observer's publish weakened to Relaxed (thread 0 observes, thread 1 collects) -/
def evsRelaxedPublish : List Conc.Ev :=
  [⟨0, "A", "s0b0", "Relaxed", 1, 0, 0, true⟩,     -- observer: bucket += 1
   ⟨0, "A", "s0c", "Relaxed", 1, 0, 0, true⟩,      -- observer: count += 1, RELAXED instead of Release
   ⟨1, "C", "s0c", "Acquire", 1, 0, 1, true⟩,      -- collector: spin cas 1 -> 0 succeeds, Acquire
   ⟨1, "W", "s0b0", "AcqRel", 0, 0, 1, true⟩]      -- collector: swap the bucket to 0, reads 1

/-- the trace with the collector's spin weakened to Relaxed -/
def evsRelaxedSpin : List Conc.Ev :=
  [⟨0, "A", "s0b0", "Relaxed", 1, 0, 0, true⟩,     -- observer: bucket += 1
   ⟨0, "A", "s0c", "Release", 1, 0, 0, true⟩,      -- observer: count += 1, Release
   ⟨1, "C", "s0c", "Relaxed", 1, 0, 1, true⟩,      -- collector: spin cas succeeds, RELAXED instead of Acquire
   ⟨1, "W", "s0b0", "AcqRel", 0, 0, 1, true⟩]      -- collector: swap the bucket to 0, reads 1

/-- the correct protocol, for comparison -/
def evsGood : List Conc.Ev :=
  [⟨0, "A", "s0b0", "Relaxed", 1, 0, 0, true⟩,
   ⟨0, "A", "s0c", "Release", 1, 0, 0, true⟩,
   ⟨1, "C", "s0c", "Acquire", 1, 0, 1, true⟩,
   ⟨1, "W", "s0b0", "AcqRel", 0, 0, 1, true⟩]

def trRelaxedPublish : List MEv := evsRelaxedPublish.map ofEv
def trRelaxedSpin : List MEv := evsRelaxedSpin.map ofEv
def trGood : List MEv := evsGood.map ofEv

/-- a trace without release writes has no synchronizes-with edge at all -/
theorem no_sw_of_no_release_write {tr : List MEv}
    (h : ∀ (k : Nat) (e : MEv), tr[k]? = some e → e.wr = true → e.rel = false) : ∀ i j, ¬ sw tr i j := by
  intro i j hs
  obtain ⟨_, ei, _, hi, _, h1, h2, _⟩ := sw_imp hs
  rw [h i ei hi h1] at h2; cases h2

/-- a trace without acquire reads has no synchronizes-with edge at all -/
theorem no_sw_of_no_acquire_read {tr : List MEv}
    (h : ∀ (k : Nat) (e : MEv), tr[k]? = some e → e.rd = true → e.acq = false) : ∀ i j, ¬ sw tr i j := by
  intro i j hs
  obtain ⟨_, _, ej, _, hj, _, _, h1, h2, _⟩ := sw_imp hs
  rw [h j ej hj h1] at h2; cases h2

/-- no release write is followed by an acquire read of its location: the form of "nothing synchronizes" whose
    hypothesis `h` a concrete trace settles by evaluation (`by decide` in `handoff_needs_*`) -/
theorem no_sw_of_pairwise {tr : List MEv}
    (h : tr.Pairwise fun a b => ¬ (a.wr = true ∧ a.rel = true ∧ b.rd = true ∧ b.acq = true ∧ a.loc = b.loc)) :
    ∀ i j, ¬ sw tr i j := by
  intro i j hs
  obtain ⟨hij, ei, ej, hi, hj, h1, h2, h3, h4, h5⟩ := sw_imp hs
  obtain ⟨hi', rfl⟩ := List.getElem?_eq_some_iff.mp hi
  obtain ⟨hj', rfl⟩ := List.getElem?_eq_some_iff.mp hj
  exact List.pairwise_iff_getElem.mp h i j hi' hj' hij ⟨h1, h2, h3, h4, h5⟩

theorem po_iff_tids {tr : List MEv} {i j : Nat} :
    po tr i j ↔ i < j ∧ ∃ t, (tr.map (·.tid))[i]? = some t ∧ (tr.map (·.tid))[j]? = some t := by
  simp only [List.getElem?_map, Option.map_eq_some_iff]
  constructor
  · rintro ⟨h, a, b, ha, hb, hab⟩
    exact ⟨h, a.tid, ⟨a, ha, rfl⟩, ⟨b, hb, hab.symm⟩⟩
  · rintro ⟨h, t, ⟨a, ha, hat⟩, ⟨b, hb, hbt⟩⟩
    exact ⟨h, a, b, ha, hb, hat.trans hbt.symm⟩

theorem po_two_two {tr : List MEv} (ht : tr.map (·.tid) = [0, 0, 1, 1]) {i j : Nat} :
    po tr i j ↔ (i = 0 ∧ j = 1) ∨ (i = 2 ∧ j = 3) := by
  rw [po_iff_tids, ht]
  constructor
  · rintro ⟨hij, t, hi, hj⟩
    have key : ∀ j < 4, ∀ i < j, [0, 0, 1, 1][i]? = [0, 0, 1, 1][j]? → (i = 0 ∧ j = 1) ∨ (i = 2 ∧ j = 3) := by
      decide
    exact key j (List.getElem?_eq_some_iff.mp hj).1 i hij (hi.trans hj.symm)
  · rintro (⟨rfl, rfl⟩ | ⟨rfl, rfl⟩)
    · exact ⟨by omega, 0, rfl, rfl⟩
    · exact ⟨by omega, 1, rfl, rfl⟩

/-- the publish weakened to Relaxed: the spin reads the publish and the swap reads the bucket write, but nothing
    synchronizes (the only release write is the collector's swap, which nothing reads), so `hb` is program order.
    What it means for the histogram is said at `C02.handoff_needs_release` (same statement). -/
theorem handoff_needs_release :
    rf trRelaxedPublish 2 = some 1 ∧ rf trRelaxedPublish 3 = some 0 ∧
    (∀ i j, hb trRelaxedPublish i j ↔ (i = 0 ∧ j = 1) ∨ (i = 2 ∧ j = 3)) ∧
    ¬ hb trRelaxedPublish 0 3 := by
  have hchar (i j) := (hb_iff_po_of_no_sw (tr := trRelaxedPublish) (no_sw_of_pairwise (by decide +kernel)) (i := i) (j := j)).trans
    (po_two_two (by decide +kernel))
  exact ⟨by decide +kernel, by decide +kernel, hchar, fun h => by have := (hchar 0 3).mp h; omega⟩

/-- the spin weakened to Relaxed: nothing synchronizes (the only acquire read is the collector's swap, which reads the
    observer's Relaxed bucket write), so `hb` is program order. See `C02.handoff_needs_acquire` (same statement). -/
theorem handoff_needs_acquire :
    rf trRelaxedSpin 2 = some 1 ∧ rf trRelaxedSpin 3 = some 0 ∧
    (∀ i j, hb trRelaxedSpin i j ↔ (i = 0 ∧ j = 1) ∨ (i = 2 ∧ j = 3)) ∧
    ¬ hb trRelaxedSpin 0 3 := by
  have hchar (i j) := (hb_iff_po_of_no_sw (tr := trRelaxedSpin) (no_sw_of_pairwise (by decide +kernel)) (i := i) (j := j)).trans
    (po_two_two (by decide +kernel))
  exact ⟨by decide +kernel, by decide +kernel, hchar, fun h => by have := (hchar 0 3).mp h; omega⟩

/-- with both orderings in place (`trGood`) the same four events DO have the edge:
    the publish synchronizes with the spin and the bucket write happens-before the swap (an instance of
    `handoff_hb`; shows its hypotheses are satisfiable by the protocol's events) -/
theorem handoff_good : sw trGood 1 2 ∧ hb trGood 0 3 := by
  have hrd : ∀ e ∈ trGood, e.rd = true := by decide +kernel
  have h := handoff_hb (tr := trGood) (c := "s0c") (p := 1) (a := 2)
    (ep := ⟨0, "s0c", true, true, true, false⟩) (ea := ⟨1, "s0c", true, true, false, true⟩)
    (fun k e he _ _ => hrd e (List.mem_of_getElem? he)) (by omega) (by decide +kernel) rfl rfl rfl
    (by decide +kernel) rfl rfl rfl
  have hpo : ∀ i j, (i = 0 ∧ j = 1) ∨ (i = 2 ∧ j = 3) → po trGood i j :=
    fun i j => (po_two_two (tr := trGood) (by decide +kernel)).mpr
  exact ⟨h.1, h.2.1 0 3 (hpo 0 1 (.inl ⟨rfl, rfl⟩)) (hpo 2 3 (.inr ⟨rfl, rfl⟩))⟩

/-! From the machine's checks (`Conc.ordGe`, the kind and success of an event) to the flags of `ofEv`; used by HandoffHist. -/

theorem ordGe_release_eq (o : String) : Conc.ordGe o "Release" = relOrd o := by
  simp only [Conc.ordGe, relOrd, String.reduceBEq, Bool.or_false, Bool.or_true, Bool.and_true]
  cases (o == "Release") <;> cases (o == "SeqCst") <;> cases (o == "AcqRel") <;> rfl

theorem ordGe_acquire_eq (o : String) : Conc.ordGe o "Acquire" = acqOrd o := by
  simp only [Conc.ordGe, acqOrd, String.reduceBEq, Bool.or_false, Bool.and_true]
  cases (o == "Acquire") <;> cases (o == "SeqCst") <;> cases (o == "AcqRel") <;> rfl

/-- clause (3) of `C02.publish_is_release_spin_is_acquire`, in its shape but for every string -/
theorem ordGe_table (o : String) :
    (Conc.ordGe o "Release" = true ↔ o = "Release" ∨ o = "AcqRel" ∨ o = "SeqCst") ∧
    (Conc.ordGe o "Acquire" = true ↔ o = "Acquire" ∨ o = "AcqRel" ∨ o = "SeqCst") ∧
    (Conc.ordGe o "Release" = true → relOrd o = true) ∧
    (Conc.ordGe o "Acquire" = true → acqOrd o = true) := by
  rw [ordGe_release_eq, ordGe_acquire_eq]
  refine ⟨?_, ?_, id, id⟩ <;> simp [relOrd, acqOrd, or_assoc]

theorem ofEv_rel_of_ordGe {e : Conc.Ev} (h : Conc.ordGe e.ord "Release" = true) : (ofEv e).rel = true := by
  rw [ordGe_release_eq] at h; exact h

theorem ofEv_acq_of_ordGe {e : Conc.Ev} (h : Conc.ordGe e.ord "Acquire" = true)
    (hok : e.k = "C" → e.ok = true) : (ofEv e).acq = true := by
  rw [ordGe_acquire_eq] at h
  by_cases hk : e.k = "C"
  · simp [ofEv, h, hok hk]
  · simp [ofEv, h, hk]

theorem ofEv_rmw_of_kind {e : Conc.Ev} (hk : e.k = "A" ∨ e.k = "C") :
    (ofEv e).rd = true ∧ ((ofEv e).wr = true ↔ (e.k = "A" ∨ e.ok = true)) := by
  rcases hk with hk | hk <;> simp [ofEv, hk]

theorem ofEv_read_only {e : Conc.Ev} (hk : e.k = "L" ∨ (e.k = "C" ∧ e.ok = false)) :
    (ofEv e).rd = true ∧ (ofEv e).wr = false := by
  rcases hk with hk | ⟨hk, hok⟩
  · simp [ofEv, hk]
  · simp [ofEv, hk, hok]

end Prom.Handoff
