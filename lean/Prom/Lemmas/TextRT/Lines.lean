import Prom.Lemmas.TextRT.Defs
import Prom.Lemmas.TextRT.Bytes
/- C04 round trip: the encoder's output is its lines joined by LF (`header_eq`, `samplesText_eq`); the reader's
   line splitter undoes that (`splitLines_join`); how many lines there are (`count_lf_joinLines`, `famLines_length`). -/
namespace Prom.C04
open Prom.Text Prom.TextParse
namespace RT

theorem joinLines_nil : joinLines [] = [] := rfl
theorem joinLines_cons (l : Str) (ls : List Str) : joinLines (l :: ls) = l ++ [10] ++ joinLines ls := rfl
theorem joinLines_append (a b : List Str) : joinLines (a ++ b) = joinLines a ++ joinLines b := List.flatMap_append
theorem joinLines_singleton (l : Str) : joinLines [l] = l ++ [10] := List.flatMap_singleton ..
/-- the text of a document is the concatenation of its families' texts (`docLines` is a `flatMap`) -/
theorem joinLines_flatMap {α : Type} (xs : List α) (f : α → List Str) :
    joinLines (xs.flatMap f) = xs.flatMap (fun x => joinLines (f x)) := List.flatMap_assoc
theorem joinLines_map {α : Type} (xs : List α) (f : α → Str) :
    joinLines (xs.map f) = xs.flatMap (fun x => f x ++ [10]) := List.flatMap_map ..

theorem splitLines_go_line (l cur rest : Str) (acc : List Str) (h : (10 : UInt8) ∉ l) :
    splitLines.go cur (l ++ 10 :: rest) acc = splitLines.go [] rest ((cur.reverse ++ l) :: acc) := by
  induction l generalizing cur with
  | nil => simp [splitLines.go]
  | cons b l ih =>
    rw [List.mem_cons, not_or] at h
    have hb : (b == 10) = false := beq_eq_false_iff_ne.2 (Ne.symm h.1)
    simp [splitLines.go, hb, ih _ h.2]

theorem splitLines_go_join (ls acc : List Str) (h : ∀ l ∈ ls, (10 : UInt8) ∉ l) :
    splitLines.go [] (joinLines ls) acc = some (acc.reverse ++ ls) := by
  induction ls generalizing acc with
  | nil => simp [joinLines, splitLines.go]
  | cons l ls ih =>
    rw [List.forall_mem_cons] at h
    rw [joinLines_cons, List.append_assoc, List.singleton_append, splitLines_go_line l [] _ acc h.1, ih _ h.2]
    simp

theorem splitLines_join (ls : List Str) (h : ∀ l ∈ ls, (10 : UInt8) ∉ l) : splitLines (joinLines ls) = some ls := by
  unfold splitLines
  rw [splitLines_go_join ls [] h]
  simp

theorem writeSample_eq (fmt : UInt64 → Str) (name pfx : Str) (s : Sample) (extra : Option (Str × Str)) (v : UInt64) :
    writeSample fmt name pfx s extra v = sampleLine fmt name pfx s extra v ++ [10] := by
  simp only [writeSample, sampleLine, bs_lf]

theorem sampleText_eq (fmt : UInt64 → Str) (name : Str) (ty : MType) (s : Sample) (hty : ty ≠ .untyped) :
    sampleText fmt name ty s = some (joinLines (sampleLines fmt name ty s)) := by
  cases ty with
  | untyped => exact absurd rfl hty
  | counter | gauge => simp [sampleText, sampleLines, writeSample_eq, joinLines_singleton]
  | histogram =>
    simp only [sampleText, sampleLines, writeSample_eq, joinLines_append, joinLines_map]
    split <;> simp [joinLines_cons, joinLines_nil]
  | summary =>
    simp only [sampleText, sampleLines, writeSample_eq, joinLines_append, joinLines_map]
    simp [joinLines_cons, joinLines_nil]

theorem samplesText_eq (fmt : UInt64 → Str) (name : Str) (ty : MType) (hty : ty ≠ .untyped) (ss : List Sample) :
    samplesText fmt name ty ss = (joinLines (ss.flatMap (sampleLines fmt name ty)), true) := by
  induction ss with
  | nil => rfl
  | cons s r ih =>
    simp only [samplesText, sampleText_eq fmt name ty s hty, ih, List.flatMap_cons, joinLines_append]

theorem header_eq (f : Family) : header f = joinLines (headerLines f) := by
  unfold header headerLines helpLine typeLine
  split <;> simp [joinLines_cons, joinLines_nil, bs_lf]

/-- the number of lines of one sample: a function of the type and of the NUMBER of buckets /
    quantiles (and whether a `+Inf` bound is among them) only -/
def sampleLineCount (ty : MType) (s : Sample) : Nat :=
  match ty with
  | .counter | .gauge => 1
  | .histogram => (histOf s).2.2.length + (if (histOf s).2.2.any (fun b => f64IsPosInf b.1) then 0 else 1) + 2
  | .summary => (summaryOf s).2.2.length + 2
  | .untyped => 0

def famLineCount (f : Family) : Nat :=
  (if f.help.isEmpty then 0 else 1) + 1 + (f.samples.map (sampleLineCount f.ty)).sum

theorem sampleLines_length (fmt : UInt64 → Str) (name : Str) (ty : MType) (s : Sample) :
    (sampleLines fmt name ty s).length = sampleLineCount ty s := by
  cases ty with
  | counter | gauge | untyped => rfl
  | summary => simp [sampleLines, sampleLineCount]
  | histogram =>
    simp only [sampleLines, sampleLineCount, List.length_append, List.length_map]
    split <;> rfl

theorem famLines_length (fmt : UInt64 → Str) (f : Family) : (famLines fmt f).length = famLineCount f := by
  simp only [famLines, famLineCount, headerLines, List.length_append, List.length_flatMap, sampleLines_length]
  split <;> rfl

theorem count_lf_joinLines (ls : List Str) (h : ∀ l ∈ ls, (10 : UInt8) ∉ l) : (joinLines ls).count 10 = ls.length := by
  induction ls with
  | nil => rfl
  | cons a r ih =>
    rw [List.forall_mem_cons] at h
    rw [joinLines_cons, List.count_append, List.count_append, List.count_eq_zero.2 h.1, ih h.2, Nat.zero_add,
      Nat.add_comm]
    rfl

end RT

/-- number of line feeds -/
def lfCount (s : Str) : Nat := s.count 10

end Prom.C04
