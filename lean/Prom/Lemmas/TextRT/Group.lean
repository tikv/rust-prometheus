import Prom.Lemmas.TextRT.Defs
import Prom.Lemmas.TextRT.Bytes
/- C04 round trip: grouping the parsed lines back into families; the entry point is `group_doc`. The steps stand in
   the sub-namespace `Grp` (`Grp.closed`, `Grp.header`, one sample, one family, …): their short names would otherwise
   meet `Text.header` and the lemmas of the other TextRT files in `RT`. -/
namespace Prom.C04.RT
open Prom.Text Prom.TextParse

namespace Grp

theorem toPairs_pairsOf (ls : List LabelPair) : toPairs (pairsOf ls) = ls :=
  (List.map_map ..).trans (List.map_id ls)

theorem stripLast_snoc (ps : List (Str × Str)) (k v : Str) :
    stripLast (ps ++ [(k, v)]) k = some (ps, v) := by
  simp [stripLast]

/-- what reads as a count is not a NaN, so `canonF64` leaves it alone -/
theorem canon_count {x : UInt64} {n : Nat} (h : f64ToNat? x = some n) : f64ToNat? (canonF64 x) = some n := by
  suffices hn : f64IsNaN x = false by simpa only [canonF64, hn, Bool.false_eq_true, if_false] using h
  unfold f64ToNat? at h
  split at h
  · rw [eq_of_beq ‹(x == 0) = true›]; decide
  · simp only [] at h
    split at h
    · cases h
    · -- the exponent is at most 1023 + 52 < 2047
      rename_i hc
      simp only [Bool.or_eq_true, decide_eq_true_eq, not_or] at hc
      obtain ⟨-, h3⟩ := hc
      simp only [UInt64.toNat_and, UInt64.toNat_shiftRight] at h3
      simp only [f64IsNaN, decide_eq_false_iff_not, gt_iff_lt, UInt64.lt_iff_toNat_lt, UInt64.toNat_and]
      have e1 : UInt64.toNat 0x7FFFFFFFFFFFFFFF = 2 ^ 63 - 1 := by decide
      have e2 : UInt64.toNat 0x7FF = 2 ^ 11 - 1 := by decide
      have e3 : UInt64.toNat 52 % 64 = 52 := by decide
      have e4 : UInt64.toNat 0x7FF0000000000000 = 0x7FF0000000000000 := by decide
      rw [e2, e3, Nat.and_two_pow_sub_one_eq_mod, Nat.shiftRight_eq_div_pow] at h3
      rw [e1, e4, Nat.and_two_pow_sub_one_eq_mod]
      omega

theorem group_sample_eq (p : PSample) (rest : List Line) (c : Cur) (acc : List Family) :
    group (.sample p :: rest) (some c) none acc =
      match addSample c p with
      | some c' => group rest (some c') none acc
      | none => none := rfl

/-- a run of items, each of which pushes one entry onto one list field of the `Cur` (`st l` is the state with that field
    set to `l`), pushes the mapped list, reversed. `st` is given explicitly at each use (`fun l => ⟨…, l, …⟩`): the `Cur`
    literals are then only compared with `st l`, never rewritten -/
theorem group_push {α β : Type} (st : List β → Cur) (f : α → List Line) (g : α → β) (xs : List α)
    (h : ∀ x ∈ xs, ∀ l rest acc, group (f x ++ rest) (some (st l)) none acc = group rest (some (st (g x :: l))) none acc)
    (l : List β) (rest : List Line) (acc : List Family) :
    group (xs.flatMap f ++ rest) (some (st l)) none acc = group rest (some (st ((xs.map g).reverse ++ l))) none acc := by
  induction xs generalizing l with
  | nil => rfl
  | cons x r ih =>
    rw [List.forall_mem_cons] at h
    rw [List.flatMap_cons, List.append_assoc, h.1, ih h.2]
    simp

theorem add_bucket (name help : Str) (samples : List Sample) (bacc : List (UInt64 × Nat))
    (ls : List (Str × Str)) (le : Str) (v ub : UInt64) (n : Nat) (ts : Int)
    (h1 : parseFloat le = some ub) (h2 : f64ToNat? v = some n) (rest : List Line) (acc : List Family) :
    group (.sample ⟨name ++ bs "_bucket", ls ++ [(bs "le", le)], v, ts⟩ :: rest)
        (some ⟨name, help, .histogram, samples, bacc, [], none⟩) none acc =
      group rest (some ⟨name, help, .histogram, samples, (ub, n) :: bacc, [], none⟩) none acc := by
  simp [group_sample_eq, addSample, stripLast_snoc, h1, h2]

theorem add_quant (name help : Str) (samples : List Sample) (qacc : List (UInt64 × UInt64))
    (ls : List (Str × Str)) (q : Str) (v qv : UInt64) (ts : Int)
    (h1 : parseFloat q = some qv) (rest : List Line) (acc : List Family) :
    -- `name ++ []` is the shape `expSample name [] …` has: a quantile line carries the bare name
    group (.sample ⟨name ++ [], ls ++ [(bs "quantile", q)], v, ts⟩ :: rest)
        (some ⟨name, help, .summary, samples, [], qacc, none⟩) none acc =
      group rest (some ⟨name, help, .summary, samples, [], (qv, v) :: qacc, none⟩) none acc := by
  simp [group_sample_eq, addSample, stripLast_snoc, h1, bs_sum, bs_count]

theorem parse_inf : parseFloat (bs "+Inf") = some f64PosInf := by decide +kernel

theorem hist_buckets (fmt : UInt64 → Str) (name help : Str) (samples : List Sample) (s : Sample)
    (rest : List Line) (acc : List Family) (bks : List (UInt64 × Nat))
    (h : ∀ b ∈ bks, parseFloat (fmt b.1) = some (canonF64 b.1) ∧ f64ToNat? (f64OfNat b.2) = some b.2)
    (bacc : List (UInt64 × Nat)) :
    group (bks.map (fun b => expSample name (bs "_bucket") s (some (bs "le", fmt b.1)) (f64OfNat b.2)) ++ rest)
        (some ⟨name, help, .histogram, samples, bacc, [], none⟩) none acc =
      group rest (some ⟨name, help, .histogram, samples, (bks.map fun b => (canonF64 b.1, b.2)).reverse ++ bacc, [], none⟩) none acc := by
  rw [List.map_eq_flatMap]
  exact group_push (fun l => ⟨name, help, .histogram, samples, l, [], none⟩) _ _ bks (fun b hb l rest acc =>
    add_bucket name help samples l _ _ _ _ _ _ (h b hb).1 (canon_count (h b hb).2) rest acc) bacc rest acc

theorem summ_quants (fmt : UInt64 → Str) (name help : Str) (samples : List Sample) (s : Sample)
    (rest : List Line) (acc : List Family) (qs : List (UInt64 × UInt64))
    (h : ∀ q ∈ qs, parseFloat (fmt q.1) = some (canonF64 q.1)) (qacc : List (UInt64 × UInt64)) :
    group (qs.map (fun q => expSample name [] s (some (bs "quantile", fmt q.1)) q.2) ++ rest)
        (some ⟨name, help, .summary, samples, [], qacc, none⟩) none acc =
      group rest (some ⟨name, help, .summary, samples, [], (qs.map fun q => (canonF64 q.1, canonF64 q.2)).reverse ++ qacc, none⟩) none acc := by
  rw [List.map_eq_flatMap]
  exact group_push (fun l => ⟨name, help, .summary, samples, [], l, none⟩) _ _ qs (fun q hq l rest acc =>
    add_quant name help samples l _ _ _ _ _ (h q hq) rest acc) qacc rest acc

/-- the sample as it is read back -/
def readBack (s : Sample) : Sample := { s with val := canonVal s.val }

theorem one_sample (fmt : UInt64 → Str) (name help : Str) (ty : MType) (samples : List Sample) (s : Sample)
    (rest : List Line) (acc : List Family) (hk : s.val.kind = ty) (hty : ty ≠ .untyped)
    (hv : ∀ v ∈ sampleValues ty s, parseFloat (fmt v) = some (canonF64 v))
    (hc : ∀ n ∈ sampleCounts ty s, f64ToNat? (f64OfNat n) = some n) :
    group (expSampleLines fmt name ty s ++ rest) (some ⟨name, help, ty, samples, [], [], none⟩) none acc =
      group rest (some ⟨name, help, ty, readBack s :: samples, [], [], none⟩) none acc := by
  obtain ⟨labels, val, ts⟩ := s
  cases val with
  | counter v =>
    subst hk
    simp [MVal.kind, expSampleLines, expSample, Sample.counterVal, group_sample_eq, addSample, readBack, canonVal, toPairs_pairsOf]
  | gauge v =>
    subst hk
    simp [MVal.kind, expSampleLines, expSample, Sample.gaugeVal, group_sample_eq, addSample, readBack, canonVal, toPairs_pairsOf]
  | untyped v => exact absurd hk.symm hty
  | hist c sum bks =>
    subst hk
    simp only [MVal.kind, sampleValues, sampleCounts, histOf] at hv hc
    have hbk : ∀ b ∈ bks, parseFloat (fmt b.1) = some (canonF64 b.1) ∧ f64ToNat? (f64OfNat b.2) = some b.2 := fun b hb =>
      ⟨hv _ (List.mem_append_left _ (List.mem_flatMap.2 ⟨b, hb, by simp⟩)), hc _ (List.mem_cons_of_mem _ (List.mem_map.2 ⟨b, hb, rfl⟩))⟩
    have hcnt := canon_count (hc c (by simp))
    simp only [MVal.kind, expSampleLines, histOf, List.append_assoc]
    rw [hist_buckets fmt name help samples _ _ acc bks hbk []]
    -- what is left: the `+Inf` line (unless a bucket has that bound), then `_sum`, then `_count`, which closes the sample
    by_cases hany : bks.any (fun b => f64IsPosInf b.1) = true <;>
      simp [hany, expSample, group_sample_eq, addSample, stripLast_snoc, parse_inf, hcnt, readBack, canonVal, toPairs_pairsOf, bs_bucket, bs_sum,
        bs_count]
  | summary c sum qs =>
    subst hk
    simp only [MVal.kind, sampleValues, sampleCounts, summaryOf] at hv hc
    have hq : ∀ q ∈ qs, parseFloat (fmt q.1) = some (canonF64 q.1) := fun q hq =>
      hv _ (List.mem_append_left _ (List.mem_flatMap.2 ⟨q, hq, by simp⟩))
    have hcnt := canon_count (hc c (by simp))
    simp only [MVal.kind, expSampleLines, summaryOf, List.append_assoc]
    rw [summ_quants fmt name help samples _ _ acc qs hq []]
    simp [expSample, group_sample_eq, addSample, hcnt, readBack, canonVal, toPairs_pairsOf, bs_sum, bs_count]

theorem all_samples (fmt : UInt64 → Str) (name help : Str) (ty : MType) (rest : List Line) (acc : List Family)
    (hty : ty ≠ .untyped) (ss : List Sample)
    (hk : ∀ s ∈ ss, s.val.kind = ty)
    (hv : ∀ s ∈ ss, ∀ v ∈ sampleValues ty s, parseFloat (fmt v) = some (canonF64 v))
    (hc : ∀ s ∈ ss, ∀ n ∈ sampleCounts ty s, f64ToNat? (f64OfNat n) = some n) (samples : List Sample) :
    group (ss.flatMap (expSampleLines fmt name ty) ++ rest) (some ⟨name, help, ty, samples, [], [], none⟩) none acc =
      group rest (some ⟨name, help, ty, (ss.map readBack).reverse ++ samples, [], [], none⟩) none acc := by
  exact group_push (fun l => ⟨name, help, ty, l, [], [], none⟩) _ _ ss (fun s hs l rest acc =>
    one_sample fmt name help ty l s rest acc (hk s hs) hty (hv s hs) (hc s hs)) samples rest acc

/-- the list of families finished so far, once the family being read (if any) is closed. `group` closes it in three
    places, the end of the lines, a `# HELP` line, a `# TYPE` line: `group_nil`, `group_help`, `group_type` -/
def closed : Option Cur → List Family → Option (List Family)
  | none, acc => some acc
  | some c, acc => c.finish.map (· :: acc)

theorem group_nil (cur : Option Cur) (acc : List Family) :
    group [] cur none acc = (closed cur acc).map List.reverse := by
  cases cur with
  | none => rfl
  | some c =>
    show c.finish.map (fun f => (f :: acc).reverse) = (c.finish.map (· :: acc)).map List.reverse
    cases c.finish <;> rfl

theorem group_help (n d : Str) (r : List Line) (cur : Option Cur) (acc : List Family) :
    group (.help n d :: r) cur none acc = (closed cur acc).bind (group r none (some (n, d))) := by
  cases cur with
  | none => rfl
  | some c =>
    show (match c.finish with | some f => group r none (some (n, d)) (f :: acc) | none => none) =
      (c.finish.map (· :: acc)).bind _
    cases c.finish <;> rfl

theorem group_type (n : Str) (ty : MType) (r : List Line) (cur : Option Cur) (acc : List Family) :
    group (.type n (typeName ty) :: r) cur none acc =
      (closed cur acc).bind (group r (some { name := n, help := [], ty := ty }) none) := by
  cases cur with
  | none =>
    show (match parseType (typeName ty) with
      | none => none
      | some ty => group r (some { name := n, help := [], ty := ty }) none acc) = _
    rw [parseType_typeName]; rfl
  | some c =>
    show (match parseType (typeName ty) with
      | none => none
      | some ty => match c.finish with
        | some f => group r (some { name := n, help := [], ty := ty }) none (f :: acc)
        | none => none) = (c.finish.map (· :: acc)).bind _
    rw [parseType_typeName]; cases c.finish <;> rfl

/-- a `# TYPE` line right after the `# HELP` line of the same name opens the family with that help text -/
theorem group_help_type (n d : Str) (ty : MType) (r : List Line) (acc : List Family) :
    group (.type n (typeName ty) :: r) none (some (n, d)) acc =
      group r (some { name := n, help := d, ty := ty }) none acc := by
  show (match parseType (typeName ty) with
      | none => none
      | some ty => match (if n == n then some d else none) with
        | none => none
        | some h => group r (some { name := n, help := h, ty := ty }) none acc) = _
  rw [parseType_typeName, beq_self_eq_true, if_pos rfl]

theorem header (f : Family) (rest : List Line) (cur : Option Cur) (acc acc' : List Family)
    (h : closed cur acc = some acc') :
    group (expHeader f ++ rest) cur none acc = group rest (some ⟨f.name, f.help, f.ty, [], [], [], none⟩) none acc' := by
  unfold expHeader
  by_cases hh : f.help.isEmpty = true
  · rw [if_pos hh, List.nil_append, List.singleton_append, group_type, h, List.isEmpty_iff.1 hh]
    rfl
  · rw [if_neg hh, List.singleton_append, List.cons_append, List.singleton_append, group_help, h, Option.bind_some,
      group_help_type]

/-- the family as it is read back -/
def readBackFam (f : Family) : Family := { f with samples := f.samples.map readBack }

theorem all_fams (fmt : UInt64 → Str) (fams : List Family) (hwf : WF fams)
    (hv : ∀ f ∈ fams, ∀ s ∈ f.samples, ∀ v ∈ sampleValues f.ty s, parseFloat (fmt v) = some (canonF64 v))
    (hc : ∀ f ∈ fams, ∀ s ∈ f.samples, ∀ n ∈ sampleCounts f.ty s, f64ToNat? (f64OfNat n) = some n)
    (cur : Option Cur) (acc acc' : List Family) (h : closed cur acc = some acc') :
    group (expDoc fmt fams) cur none acc = some (acc'.reverse ++ fams.map readBackFam) := by
  induction fams generalizing cur acc acc' with
  | nil =>
    show group [] cur none acc = _
    rw [group_nil, h]
    simp
  | cons f r ih =>
    rw [WF, List.forall_mem_cons] at hwf
    rw [List.forall_mem_cons] at hv hc
    show group (expHeader f ++ f.samples.flatMap (expSampleLines fmt f.name f.ty) ++ expDoc fmt r) cur none acc = _
    rw [List.append_assoc, Grp.header f _ cur acc acc' h,
      all_samples fmt f.name f.help f.ty _ acc' hwf.1.ty f.samples hwf.1.kinds hv.1 hc.1 [],
      ih hwf.2 hv.2 hc.2 _ acc' (readBackFam f :: acc') (by simp [closed, Cur.finish, readBackFam])]
    simp

end Grp

theorem group_doc (fmt : UInt64 → Str) (fams : List Family) (hwf : WF fams)
    (hf : FmtOk fmt (valuesOf fams)) (hc : CountsOk (countsOf fams)) :
    group (expDoc fmt fams) none none [] = some (canon fams) := by
  rw [Grp.all_fams fmt fams hwf (fun f hfm s hs v hv => hf.reads v (List.mem_flatMap.2 ⟨f, hfm, List.mem_flatMap.2 ⟨s, hs, hv⟩⟩))
    (fun f hfm s hs n hn => hc n (List.mem_flatMap.2 ⟨f, hfm, List.mem_flatMap.2 ⟨s, hs, hn⟩⟩)) none [] [] rfl]
  simp [canon, Grp.readBackFam, Grp.readBack]

end Prom.C04.RT
