import Prom.Lemmas.TextRT.Defs
import Prom.Lemmas.TextRT.Bytes
import Prom.Lemmas.Text.Escape
/- C04 round trip: the two header lines read back (`parseLine_help`, `parseLine_type`) and hold no LF
   (`helpLine_no_lf`, `typeLine_no_lf`, `headerLines_no_lf`). -/
namespace Prom.C04.RT
open Prom.Text Prom.TextParse

/-- `parseLine` behind the `# HELP ` prefix -/
theorem parseLine_help_prefix (r : Str) :
    parseLine ([35, 32, 72, 69, 76, 80, 32] ++ r) = (unescape false (dropBlanks (splitSpace r).2)).map (.help (splitSpace r).1) := by
  unfold parseLine
  rw [bs_help]
  cases h : unescape false (dropBlanks (splitSpace r).2) <;> simp [List.isPrefixOf, h]

/-- `parseLine` behind the `# TYPE ` prefix -/
theorem parseLine_type_prefix (r : Str) :
    parseLine ([35, 32, 84, 89, 80, 69, 32] ++ r) = some (.type (splitSpace r).1 (splitSpace r).2) := by
  unfold parseLine
  rw [bs_help, bs_type]
  simp [List.isPrefixOf]

theorem dropBlanks_of_head (s : Str) (h : ∀ b r, s = b :: r → b ≠ 32 ∧ b ≠ 9) : dropBlanks s = s := by
  cases s with
  | nil => rfl
  | cons b r =>
    obtain ⟨h1, h2⟩ := h b r rfl
    simp [dropBlanks, h1, h2]

/-- escaping keeps the first byte, or puts a backslash there -/
theorem escape_head (q : Bool) (v : Str) (h : ∀ b r, v = b :: r → b ≠ 32 ∧ b ≠ 9) :
    ∀ b r, escapeString q v = b :: r → b ≠ 32 ∧ b ≠ 9 := by
  rw [Esc.escape_eq_flatMap]
  cases v with
  | nil => intro b r hbr; simp at hbr
  | cons a t =>
    intro b r hbr
    rw [List.flatMap_cons] at hbr
    rcases escByte_cases q a with ⟨e, -⟩ | ⟨e, -⟩ | ⟨e, -⟩ | ⟨e, -⟩ <;> rw [e] at hbr <;> obtain rfl := (List.cons.inj hbr).1
    · exact h _ t rfl
    all_goals decide

theorem parseLine_help (f : Family) (hn : isValidMetricName f.name = true)
    (hh : ∀ b r, f.help = b :: r → b ≠ 32 ∧ b ≠ 9) : parseLine (helpLine f) = some (.help f.name f.help) := by
  have hline : helpLine f = [35, 32, 72, 69, 76, 80, 32] ++ (f.name ++ 32 :: escapeString false f.help) := by simp [helpLine, bs_help, bs_sp]
  rw [hline, parseLine_help_prefix, splitSpace_app _ _ (name_no_sp hn), dropBlanks_of_head _ (escape_head false f.help hh),
    Esc.unescape_escape]
  rfl

theorem parseLine_type (f : Family) (hn : isValidMetricName f.name = true) :
    parseLine (typeLine f) = some (.type f.name (typeName f.ty)) := by
  have hline : typeLine f = [35, 32, 84, 89, 80, 69, 32] ++ (f.name ++ 32 :: typeName f.ty) := by simp [typeLine, bs_type, bs_sp]
  rw [hline, parseLine_type_prefix, splitSpace_app _ _ (name_no_sp hn)]

theorem helpLine_no_lf (f : Family) (hn : (10 : UInt8) ∉ f.name) : (10 : UInt8) ∉ helpLine f := by
  simp only [helpLine, bs_help, bs_sp, List.mem_append, not_or]
  exact ⟨⟨⟨by decide, hn⟩, by decide⟩, Esc.escape_no_newline false f.help⟩

theorem typeLine_no_lf (f : Family) (hn : (10 : UInt8) ∉ f.name) : (10 : UInt8) ∉ typeLine f := by
  simp only [typeLine, bs_type, bs_sp, List.mem_append, not_or]
  exact ⟨⟨⟨by decide, hn⟩, by decide⟩, fun h => absurd (typeName_bytes f.ty _ h).1 (by decide)⟩

theorem headerLines_no_lf (f : Family) (hn : (10 : UInt8) ∉ f.name) : ∀ l ∈ headerLines f, (10 : UInt8) ∉ l := by
  intro l hl
  unfold headerLines at hl
  split at hl <;> simp at hl
  · exact hl ▸ typeLine_no_lf f hn
  · rcases hl with rfl | rfl
    · exact helpLine_no_lf f hn
    · exact typeLine_no_lf f hn

end Prom.C04.RT
