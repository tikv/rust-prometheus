import Prom.Model.TextParse
/- C04 round trip: decimal integers (`intToStr` = Lean's `toString` on `Int`, standing for Rust's `i64::to_string`);
   the entry point is `int_roundtrip`. A decimal is not a literal, so `bs` cannot be evaluated on it: `bs s` is
   `s.toUTF8.toList`, core has no lemma about `ByteArray.toList` (a loop over indices), and `byteArray_toList`,
   `bs_ofList`, `bs_append` are what turns `bs` of a string built from characters into the bytes of those characters. -/
namespace Prom.C04.RT
open Prom.Text Prom.TextParse

theorem byteArray_toList_loop (b : ByteArray) (i : Nat) (r : List UInt8) :
    ByteArray.toList.loop b i r = r.reverse ++ b.data.toList.drop i := by
  fun_induction ByteArray.toList.loop b i r with
  | case1 i r h ih =>
    have hi : i < b.data.toList.length := by simpa using h
    have hget : b.get! i = b.data.toList[i] := getElem!_pos b.data i (by simpa using h)
    rw [ih, List.drop_eq_getElem_cons hi, hget]
    simp
  | case2 i r h =>
    have hi : b.data.toList.length ≤ i := by simpa using h
    simp [List.drop_eq_nil_of_le hi]

theorem byteArray_toList (b : ByteArray) : b.toList = b.data.toList := by
  simp [ByteArray.toList, byteArray_toList_loop]

theorem bs_ofList (l : List Char) : bs (String.ofList l) = l.flatMap String.utf8EncodeChar := by
  simp [bs, byteArray_toList, String.toByteArray_ofList, List.utf8Encode]

theorem utf8EncodeChar_digit (c : Char) (h : c.isDigit = true) :
    String.utf8EncodeChar c = [c.val.toUInt8] := by
  simp only [Char.isDigit, Bool.and_eq_true, decide_eq_true_eq, ge_iff_le] at h
  have : c.val ≤ 127 := UInt32.le_iff_toNat_le.mpr (Nat.le_trans (UInt32.le_iff_toNat_le.mp h.2) (by decide))
  exact String.utf8EncodeChar_eq_singleton (by simp [Char.utf8Size, this])

theorem bs_ofList_digits (l : List Char) (h : ∀ c ∈ l, c.isDigit = true) :
    bs (String.ofList l) = l.map (fun c => c.val.toUInt8) := by
  rw [bs_ofList, List.map_eq_flatMap, List.flatMap_def, List.flatMap_def,
    List.map_congr_left fun c hc => utf8EncodeChar_digit c (h c hc)]

theorem digit_byte (c : Char) (h : c.isDigit = true) :
    isDigit c.val.toUInt8 = true ∧ c.val.toUInt8.toNat - 48 = c.toNat - '0'.toNat := by
  simp only [Char.isDigit, Bool.and_eq_true, decide_eq_true_eq, ge_iff_le, UInt32.le_iff_toNat_le] at h
  have hb : c.val.toUInt8.toNat = c.val.toNat := by
    rw [UInt32.toNat_toUInt8]
    exact Nat.mod_eq_of_lt (Nat.lt_of_le_of_lt h.2 (by decide))
  refine ⟨?_, by rw [hb]; rfl⟩
  simp only [isDigit, Bool.and_eq_true, decide_eq_true_eq, UInt8.le_iff_toNat_le, hb]
  exact h

theorem digitsVal_fold (l : List Char) (h : ∀ c ∈ l, c.isDigit = true) (init : Nat) :
    (l.map (fun c => c.val.toUInt8)).foldl (fun acc d => acc * 10 + (d.toNat - 48)) init
      = Nat.ofDigitChars 10 l init := by
  induction l generalizing init with
  | nil => simp
  | cons c l ih =>
    rw [List.map_cons, List.foldl_cons, Nat.ofDigitChars_cons,
      ih (fun c hc => h c (List.mem_cons_of_mem _ hc)),
      (digit_byte c (h c List.mem_cons_self)).2, Nat.mul_comm]

theorem nat_repr_bytes (n : Nat) :
    (bs n.repr ≠ []) ∧ (bs n.repr).all isDigit = true ∧ digitsVal (bs n.repr) = n := by
  have hd : ∀ c ∈ Nat.toDigits 10 n, c.isDigit = true :=
    fun c hc => Nat.isDigit_of_mem_toDigits (by decide) (by decide) hc
  rw [Nat.repr_eq_ofList_toDigits, bs_ofList_digits _ hd]
  refine ⟨?_, ?_, ?_⟩
  · simp
  · rw [List.all_eq_true]
    intro b hb
    obtain ⟨c, hc, rfl⟩ := List.mem_map.mp hb
    exact (digit_byte c (hd c hc)).1
  · unfold digitsVal
    rw [digitsVal_fold _ hd, Nat.ofDigitChars_ten_toDigits]

theorem isDigit_ne (b : UInt8) (h : isDigit b = true) : b ≠ 32 ∧ b ≠ 10 := by
  constructor <;> (rintro rfl; revert h; decide)

theorem parseInt_digits {r : Str} (hne : r ≠ []) (hall : r.all isDigit = true) :
    parseInt r = some (digitsVal r : Int) ∧ parseInt (45 :: r) = some (-(digitsVal r : Int)) := by
  have hemp : r.isEmpty = false := by simpa using hne
  refine ⟨?_, by simp [parseInt, hemp, hall]⟩
  unfold parseInt
  split
  · exact absurd (List.all_eq_true.1 hall 45 List.mem_cons_self) (by decide)
  · simp [hemp, hall]

theorem bs_append (s t : String) : bs (s ++ t) = bs s ++ bs t := by
  simp [bs, byteArray_toList, String.toByteArray_append]

theorem int_roundtrip (t : Int) : parseInt (intToStr t) = some t ∧ ∀ b ∈ intToStr t, b ≠ 32 ∧ b ≠ 10 := by
  unfold intToStr
  rw [Int.toString_eq_repr, Int.repr_eq_if]
  split
  · obtain ⟨hne, hall, hval⟩ := nat_repr_bytes t.toNat
    refine ⟨?_, fun b hb => isDigit_ne b (List.all_eq_true.1 hall b hb)⟩
    rw [(parseInt_digits hne hall).1, hval]
    congr 1
    omega
  · obtain ⟨hne, hall, hval⟩ := nat_repr_bytes (-t).toNat
    rw [bs_append, show bs "-" = [45] by decide +kernel, List.singleton_append]
    refine ⟨?_, fun b hb => ?_⟩
    · rw [(parseInt_digits hne hall).2, hval]
      congr 1
      omega
    · rcases List.mem_cons.1 hb with rfl | hb
      · decide
      · exact isDigit_ne b (List.all_eq_true.1 hall b hb)

end Prom.C04.RT
