import Prom.Lemmas.TextRT.SampleLine
import Prom.Lemmas.TextRT.Header
/- C04 round trip: every line of the document parses to the expected line (`Parses`); the entry points are
   `parses_doc` with `Parses.mapM` / `Parses.no_lf`, and `wf_encodable`. -/
namespace Prom.C04.RT
open Prom.Text Prom.TextParse

/-- line list `ls` parses, line by line, to `es`, and no line contains a LF -/
inductive Parses : List Str → List Line → Prop
  | nil : Parses [] []
  | cons {l e ls es} : parseLine l = some e → (10 : UInt8) ∉ l → Parses ls es → Parses (l :: ls) (e :: es)

theorem Parses.append {a b : List Str} {x y : List Line} (h1 : Parses a x) (h2 : Parses b y) : Parses (a ++ b) (x ++ y) := by
  induction h1 with
  | nil => simpa using h2
  | cons hp hl _ ih => exact .cons hp hl ih

theorem Parses.mapM {ls : List Str} {es : List Line} (h : Parses ls es) : ls.mapM parseLine = some es := by
  induction h with
  | nil => rfl
  | cons hp _ _ ih => simp [List.mapM_cons, hp, ih]

theorem Parses.no_lf {ls : List Str} {es : List Line} (h : Parses ls es) : ∀ l ∈ ls, (10 : UInt8) ∉ l := by
  induction h with
  | nil => nofun
  | cons _ hl _ ih => exact List.forall_mem_cons.2 ⟨hl, ih⟩

theorem Parses.flatMap {α} (l : List α) (f : α → List Str) (g : α → List Line) (h : ∀ x ∈ l, Parses (f x) (g x)) :
    Parses (l.flatMap f) (l.flatMap g) := by
  induction l with
  | nil => exact .nil
  | cons a r ih =>
    simp only [List.flatMap_cons]
    exact (h a (by simp)).append (ih fun x hx => h x (by simp [hx]))

theorem Parses.single {l : Str} {e : Line} (h1 : parseLine l = some e) (h2 : (10 : UInt8) ∉ l) : Parses [l] [e] :=
  .cons h1 h2 .nil

theorem Parses.map {α} (l : List α) (f : α → Str) (g : α → Line) (h : ∀ x ∈ l, Parses [f x] [g x]) :
    Parses (l.map f) (l.map g) := by
  rw [List.map_eq_flatMap, List.map_eq_flatMap]
  exact Parses.flatMap l _ _ h

theorem parses_sample (fmt : UInt64 → Str) (name : Str) (ty : MType) (s : Sample) (hn : isValidMetricName name = true)
    (hty : ty ≠ .untyped) (hl : ∀ l ∈ s.labels, isValidLabelName l.name = true) (hf : FmtOk fmt (sampleValues ty s)) :
    Parses (sampleLines fmt name ty s) (expSampleLines fmt name ty s) := by
  have hbucket : (bs "_bucket").all isNameByte = true := by rw [bs_bucket]; decide
  have hsum : (bs "_sum").all isNameByte = true := by rw [bs_sum]; decide
  have hcount : (bs "_count").all isNameByte = true := by rw [bs_count]; decide
  have hle : isValidLabelName (bs "le") = true := by rw [bs_le]; decide
  have hq : isValidLabelName (bs "quantile") = true := by rw [bs_quantile]; decide
  -- one line, given that its value is among the sample's values
  have one : ∀ (pfx : Str) (extra : Option (Str × Str)) (v : UInt64), pfx.all isNameByte = true →
      (∀ e, extra = some e → isValidLabelName e.1 = true) → v ∈ sampleValues ty s →
      Parses [sampleLine fmt name pfx s extra v] [expSample name pfx s extra v] := fun pfx extra v hp he hv =>
    .single (parseLine_sample fmt name pfx s extra v hn hp hl he (hf.reads v hv) (hf.clean v hv))
      (sampleLine_no_lf fmt name pfx s extra v hn hp hl he (hf.clean v hv))
  cases ty with
  | untyped => exact absurd rfl hty
  | counter => exact one [] none s.counterVal rfl nofun (List.mem_singleton_self _)
  | gauge => exact one [] none s.gaugeVal rfl nofun (List.mem_singleton_self _)
  | histogram =>
    refine ((Parses.map _ _ _ fun b hb => ?_).append ?_).append
      ((one (bs "_sum") none _ hsum nofun (List.mem_append_right _ (by simp))).append
        (one (bs "_count") none _ hcount nofun (List.mem_append_right _ (by simp))))
    · exact one (bs "_bucket") _ _ hbucket (fun _ h => Option.some.inj h ▸ hle)
        (List.mem_append_left _ (List.mem_flatMap.2 ⟨b, hb, by simp⟩))
    · split
      · exact .nil
      · exact one (bs "_bucket") _ _ hbucket (fun _ h => Option.some.inj h ▸ hle) (List.mem_append_right _ (by simp))
  | summary =>
    refine (Parses.map _ _ _ fun q hq' => ?_).append
      ((one (bs "_sum") none _ hsum nofun (List.mem_append_right _ (by simp))).append
        (one (bs "_count") none _ hcount nofun (List.mem_append_right _ (by simp))))
    exact one [] _ _ rfl (fun _ h => Option.some.inj h ▸ hq)
      (List.mem_append_left _ (List.mem_flatMap.2 ⟨q, hq', by simp⟩))

theorem fmtOk_sub {fmt : UInt64 → Str} {a b : List UInt64} (h : FmtOk fmt b) (hs : ∀ v ∈ a, v ∈ b) : FmtOk fmt a :=
  ⟨fun v hv => h.reads v (hs v hv), fun v hv => h.clean v (hs v hv)⟩

theorem parses_fam (fmt : UInt64 → Str) (f : Family) (hw : WFFam f)
    (hf : FmtOk fmt (f.samples.flatMap (sampleValues f.ty))) :
    Parses (famLines fmt f) (expFam fmt f) := by
  unfold famLines expFam
  refine Parses.append ?_ ?_
  · unfold headerLines expHeader
    refine Parses.append ?_ (.single (parseLine_type f hw.name) (typeLine_no_lf f (name_no_lf hw.name)))
    by_cases hh : f.help.isEmpty = true
    · simp only [hh, if_true]; exact .nil
    · simp only [hh, Bool.false_eq_true, if_false]
      exact .single (parseLine_help f hw.name hw.help) (helpLine_no_lf f (name_no_lf hw.name))
  · refine Parses.flatMap _ _ _ ?_
    intro s hs
    exact parses_sample fmt f.name f.ty s hw.name hw.ty (hw.labels s hs)
      (fmtOk_sub hf fun v hv => List.mem_flatMap.2 ⟨s, hs, hv⟩)

theorem parses_doc (fmt : UInt64 → Str) (fams : List Family) (hwf : WF fams)
    (hf : FmtOk fmt (valuesOf fams)) : Parses (docLines fmt fams) (expDoc fmt fams) := by
  unfold docLines expDoc
  refine Parses.flatMap _ _ _ ?_
  intro f hfm
  exact parses_fam fmt f (hwf f hfm) (fmtOk_sub hf fun v hv => List.mem_flatMap.2 ⟨f, hfm, hv⟩)

/-- well-formed families pass `check_metric_family` and have a type the encoder writes: the hypothesis of
    `C04.output_is_lines` -/
theorem wf_encodable {fams : List Family} (hwf : WF fams) : ∀ f ∈ fams, f.samples ≠ [] ∧ f.name ≠ [] ∧ f.ty ≠ .untyped := by
  intro f hfm
  have w := hwf f hfm
  refine ⟨w.nonempty, fun e => ?_, w.ty⟩
  have := w.name
  rw [e] at this
  cases this

end Prom.C04.RT
