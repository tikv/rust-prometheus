import Prom.Model.TextParse
import Prom.Lemmas.Ident
/-
C04 round trip, ground level: the byte strings the encoder writes as literals (so that what follows
computes with byte lists and never with `String`), what identifiers consist of, and the two scanning
primitives of the reader (`takeWhile` / `dropWhile` up to a delimiter, `splitSpace`).
-/
namespace Prom.C04.RT
open Prom.Text Prom.TextParse

theorem bs_help : bs "# HELP " = [35, 32, 72, 69, 76, 80, 32] := by decide +kernel
theorem bs_type : bs "# TYPE " = [35, 32, 84, 89, 80, 69, 32] := by decide +kernel
theorem bs_sp : bs " " = [32] := by decide +kernel
theorem bs_lf : bs "\n" = [10] := by decide +kernel
theorem bs_eqq : bs "=\"" = [61, 34] := by decide +kernel
theorem bs_quote : bs "\"" = [34] := by decide +kernel
theorem bs_lbrace : bs "{" = [123] := by decide +kernel
theorem bs_rbrace : bs "}" = [125] := by decide +kernel
theorem bs_comma : bs "," = [44] := by decide +kernel
theorem bs_bucket : bs "_bucket" = [95, 98, 117, 99, 107, 101, 116] := by decide +kernel
theorem bs_sum : bs "_sum" = [95, 115, 117, 109] := by decide +kernel
theorem bs_count : bs "_count" = [95, 99, 111, 117, 110, 116] := by decide +kernel
theorem bs_le : bs "le" = [108, 101] := by decide +kernel
theorem bs_quantile : bs "quantile" = [113, 117, 97, 110, 116, 105, 108, 101] := by decide +kernel

theorem typeName_bytes (ty : MType) : ∀ b ∈ typeName ty, 97 ≤ b ∧ b ≤ 122 := by cases ty <;> decide +kernel

theorem parseType_typeName (ty : MType) : parseType (typeName ty) = some ty := by
  cases ty <;> decide +kernel

/-- the reader's name class is the model's: `isNameByte` is `metricStart` or a digit -/
theorem metricName_bytes {n : Str} (h : isValidMetricName n = true) :
    ∃ c r, n = c :: r ∧ ∀ b ∈ n, isNameByte b = true :=
  let ⟨⟨c, r, e, _⟩, hall⟩ := validIdent_bytes h; ⟨c, r, e, hall⟩

theorem labelName_bytes {n : Str} (h : isValidLabelName n = true) :
    ∃ c r, n = c :: r ∧ ∀ b ∈ n, isNameByte b = true :=
  metricName_bytes (validLabel_validMetric h)

/-- a name byte is none of the delimiters the reader scans for -/
theorem nameByte_ne {b : UInt8} (h : isNameByte b = true) : b ≠ 10 ∧ b ≠ 32 ∧ b ≠ 35 ∧ b ≠ 125 := by
  refine ⟨?_, ?_, ?_, ?_⟩ <;> (rintro rfl; revert h; decide)

theorem name_no_sp {n : Str} (hn : isValidMetricName n = true) : ∀ b ∈ n, b ≠ 32 :=
  let ⟨_, _, _, hnb⟩ := metricName_bytes hn; fun b hb => (nameByte_ne (hnb b hb)).2.1

theorem name_no_lf {n : Str} (hn : isValidMetricName n = true) : (10 : UInt8) ∉ n :=
  let ⟨_, _, _, hnb⟩ := metricName_bytes hn; fun hb => (nameByte_ne (hnb _ hb)).1 rfl

theorem takeDropWhile_delim (p : UInt8 → Bool) (a : Str) (c : UInt8) (r : Str)
    (ha : ∀ b ∈ a, p b = true) (hc : p c = false) :
    (a ++ c :: r).takeWhile p = a ∧ (a ++ c :: r).dropWhile p = c :: r := by
  simp [List.takeWhile_append_of_pos ha, List.dropWhile_append_of_pos ha, hc]

theorem takeDropWhile_all (p : UInt8 → Bool) (a : Str) (ha : ∀ b ∈ a, p b = true) :
    a.takeWhile p = a ∧ a.dropWhile p = [] := by
  simpa using And.intro (List.takeWhile_append_of_pos (l₂ := []) ha) (List.dropWhile_append_of_pos (l₂ := []) ha)

theorem splitSpace_app (n rest : Str) (h : ∀ b ∈ n, b ≠ 32) : splitSpace (n ++ 32 :: rest) = (n, rest) := by
  obtain ⟨h1, h2⟩ := takeDropWhile_delim (· != 32) n 32 rest (fun b hb => by simpa using h b hb) (by decide)
  simp [splitSpace, h1, h2]

theorem splitSpace_all (n : Str) (h : ∀ b ∈ n, b ≠ 32) : splitSpace n = (n, []) := by
  obtain ⟨h1, h2⟩ := takeDropWhile_all (· != 32) n (fun b hb => by simpa using h b hb)
  simp [splitSpace, h1, h2]

end Prom.C04.RT
