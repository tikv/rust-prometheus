import Prom.Model.TextParse
/-
C04, document-level round trip: definitions shared by the lemma files.
`docLines` is the encoder's output line by line; `expDoc` is what the independent reader's line
parser must make of those lines; `WF` is the well-formedness of the families.
-/
namespace Prom.C04.RT
open Prom Prom.Text Prom.TextParse Prom.C04

def joinLines (ls : List Str) : Str := ls.flatMap (· ++ [10])

/-- one sample line, without its LF (`write_sample`) -/
def sampleLine (fmt : UInt64 → Str) (name pfx : Str) (s : Sample) (extra : Option (Str × Str)) (value : UInt64) : Str :=
  name ++ pfx ++ labelPairsToText s.labels extra ++ bs " " ++ fmt value ++
    (if s.ts != 0 then bs " " ++ intToStr s.ts else [])

/-- the lines of one sample (mirror of `Text.sampleText`) -/
def sampleLines (fmt : UInt64 → Str) (name : Str) (ty : MType) (s : Sample) : List Str :=
  match ty with
  | .counter => [sampleLine fmt name [] s none s.counterVal]
  | .gauge => [sampleLine fmt name [] s none s.gaugeVal]
  | .histogram =>
    (histOf s).2.2.map (fun b => sampleLine fmt name (bs "_bucket") s (some (bs "le", fmt b.1)) (f64OfNat b.2)) ++
    (if (histOf s).2.2.any (fun b => f64IsPosInf b.1) then []
     else [sampleLine fmt name (bs "_bucket") s (some (bs "le", bs "+Inf")) (f64OfNat (histOf s).1)]) ++
    [sampleLine fmt name (bs "_sum") s none (histOf s).2.1, sampleLine fmt name (bs "_count") s none (f64OfNat (histOf s).1)]
  | .summary =>
    (summaryOf s).2.2.map (fun q => sampleLine fmt name [] s (some (bs "quantile", fmt q.1)) q.2) ++
    [sampleLine fmt name (bs "_sum") s none (summaryOf s).2.1, sampleLine fmt name (bs "_count") s none (f64OfNat (summaryOf s).1)]
  | .untyped => []

def helpLine (f : Family) : Str := bs "# HELP " ++ f.name ++ bs " " ++ escapeString false f.help
def typeLine (f : Family) : Str := bs "# TYPE " ++ f.name ++ bs " " ++ typeName f.ty

def headerLines (f : Family) : List Str := (if f.help.isEmpty then [] else [helpLine f]) ++ [typeLine f]
def famLines (fmt : UInt64 → Str) (f : Family) : List Str :=
  headerLines f ++ f.samples.flatMap (sampleLines fmt f.name f.ty)
def docLines (fmt : UInt64 → Str) (fams : List Family) : List Str := fams.flatMap (famLines fmt)

/-! ### what the reader's line parser must return for those lines -/

def pairsOf (ls : List LabelPair) : List (Str × Str) := ls.map fun p => (p.name, p.value)

def expSample (name pfx : Str) (s : Sample) (extra : Option (Str × Str)) (value : UInt64) : Line :=
  .sample ⟨name ++ pfx, pairsOf s.labels ++ extra.toList, canonF64 value, s.ts⟩

def expSampleLines (fmt : UInt64 → Str) (name : Str) (ty : MType) (s : Sample) : List Line :=
  match ty with
  | .counter => [expSample name [] s none s.counterVal]
  | .gauge => [expSample name [] s none s.gaugeVal]
  | .histogram =>
    (histOf s).2.2.map (fun b => expSample name (bs "_bucket") s (some (bs "le", fmt b.1)) (f64OfNat b.2)) ++
    (if (histOf s).2.2.any (fun b => f64IsPosInf b.1) then []
     else [expSample name (bs "_bucket") s (some (bs "le", bs "+Inf")) (f64OfNat (histOf s).1)]) ++
    [expSample name (bs "_sum") s none (histOf s).2.1, expSample name (bs "_count") s none (f64OfNat (histOf s).1)]
  | .summary =>
    (summaryOf s).2.2.map (fun q => expSample name [] s (some (bs "quantile", fmt q.1)) q.2) ++
    [expSample name (bs "_sum") s none (summaryOf s).2.1, expSample name (bs "_count") s none (f64OfNat (summaryOf s).1)]
  | .untyped => []

def expHeader (f : Family) : List Line :=
  (if f.help.isEmpty then [] else [Line.help f.name f.help]) ++ [Line.type f.name (typeName f.ty)]
def expFam (fmt : UInt64 → Str) (f : Family) : List Line :=
  expHeader f ++ f.samples.flatMap (expSampleLines fmt f.name f.ty)
def expDoc (fmt : UInt64 → Str) (fams : List Family) : List Line := fams.flatMap (expFam fmt)

/-- every f64 the encoder formats for this sample -/
def sampleValues (ty : MType) (s : Sample) : List UInt64 :=
  match ty with
  | .counter => [s.counterVal]
  | .gauge => [s.gaugeVal]
  | .histogram => (histOf s).2.2.flatMap (fun b => [b.1, f64OfNat b.2]) ++ [f64OfNat (histOf s).1, (histOf s).2.1]
  | .summary => (summaryOf s).2.2.flatMap (fun q => [q.1, q.2]) ++ [f64OfNat (summaryOf s).1, (summaryOf s).2.1]
  | .untyped => []
def valuesOf (fams : List Family) : List UInt64 := fams.flatMap fun f => f.samples.flatMap (sampleValues f.ty)

/-- the counts the encoder prints through `as f64` -/
def sampleCounts (ty : MType) (s : Sample) : List Nat :=
  match ty with
  | .histogram => (histOf s).1 :: (histOf s).2.2.map (·.2)
  | .summary => [(summaryOf s).1]
  | _ => []
def countsOf (fams : List Family) : List Nat := fams.flatMap fun f => f.samples.flatMap (sampleCounts f.ty)

def cleanByte (b : UInt8) : Prop := b ≠ 32 ∧ b ≠ 10 ∧ b ≠ 34 ∧ b ≠ 92

instance : DecidablePred cleanByte := fun b => by unfold cleanByte; infer_instance

/-- what the theorem needs of `f64::to_string` (Rust std), for the values that occur: it reads back to
    the same value under the exact decimal reader and uses no blank, LF, quote or backslash. Checked
    by the driver for every value of every run. -/
structure FmtOk (fmt : UInt64 → Str) (vals : List UInt64) : Prop where
  reads : ∀ v ∈ vals, parseFloat (fmt v) = some (canonF64 v)
  clean : ∀ v ∈ vals, ∀ b ∈ fmt v, cleanByte b

/-- what the theorem needs of `u64 as f64` for the counts that occur (below 2^53 it is exact; Lean's
    `Float.ofNat` is opaque to the kernel, so this is a hypothesis) -/
def CountsOk (counts : List Nat) : Prop := ∀ n ∈ counts, f64ToNat? (f64OfNat n) = some n

/-- `i64::to_string` reads back and writes neither a blank nor a LF, for the timestamps that occur (`int_roundtrip`,
    IntStr.lean, proves it of every integer) -/
def TsOk (fams : List Family) : Prop :=
  ∀ f ∈ fams, ∀ s ∈ f.samples, parseInt (intToStr s.ts) = some s.ts ∧ ∀ b ∈ intToStr s.ts, b ≠ 32 ∧ b ≠ 10

/-- well-formed families: valid names, help not starting with a blank or tab, a supported type, at
    least one sample, every sample's value slot matching the family type, valid label names -/
structure WFFam (f : Family) : Prop where
  name : isValidMetricName f.name = true
  help : ∀ b r, f.help = b :: r → b ≠ 32 ∧ b ≠ 9
  ty : f.ty ≠ .untyped
  nonempty : f.samples ≠ []
  kinds : ∀ s ∈ f.samples, s.val.kind = f.ty
  labels : ∀ s ∈ f.samples, ∀ l ∈ s.labels, isValidLabelName l.name = true

def WF (fams : List Family) : Prop := ∀ f ∈ fams, WFFam f

end Prom.C04.RT
