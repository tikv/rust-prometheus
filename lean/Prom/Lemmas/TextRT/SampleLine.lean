import Prom.Lemmas.TextRT.Defs
import Prom.Lemmas.TextRT.Bytes
import Prom.Lemmas.Text.Escape
import Prom.Lemmas.TextRT.IntStr
/- C04 round trip: the reader's line parser on one sample line written by the encoder (`parseLine_sample`,
   `sampleLine_no_lf`): the name, the label block (`labelBlock_labelsText`), value and timestamp (`afterLabels_ok`). -/
namespace Prom.C04.RT
open Prom.Text Prom.TextParse

theorem intercalate_cons (sep : Str) (x : Str) (xs : List Str) :
    sep.intercalate (x :: xs) = x ++ xs.flatMap (fun y => sep ++ y) := by
  induction xs generalizing x with
  | nil => simp
  | cons y r ih => rw [List.intercalate_cons_cons, ih, List.flatMap_cons, List.append_assoc, List.append_assoc]

/-- one `name="escaped value"` item -/
def labelItem (x : Str × Str) : Str := x.1 ++ 61 :: 34 :: (escapeString true x.2 ++ [34])

/-- `label_pairs_to_text` over plain pairs -/
def labelsText : List (Str × Str) → Str
  | [] => []
  | x :: L => 123 :: (labelItem x ++ (L.flatMap (fun y => 44 :: labelItem y) ++ [125]))

theorem labelPairsToText_eq (ls : List LabelPair) (extra : Option (Str × Str)) :
    labelPairsToText ls extra = labelsText (pairsOf ls ++ extra.toList) := by
  unfold labelPairsToText
  simp only [bs_eqq, bs_quote, bs_lbrace, bs_rbrace, bs_comma]
  cases ls <;> cases extra <;>
    simp [labelsText, pairsOf, labelItem, intercalate_cons, List.flatMap_map, List.flatMap_append]

theorem labelItem_no_lf (x : Str × Str) (hn : isValidLabelName x.1 = true) : (10 : UInt8) ∉ labelItem x := by
  obtain ⟨_, _, _, hnb⟩ := labelName_bytes hn
  simp only [labelItem, List.mem_append, List.mem_cons, List.not_mem_nil, or_false, not_or]
  exact ⟨fun h => (nameByte_ne (hnb _ h)).1 rfl, by decide, by decide, Esc.escape_no_newline true x.2, by decide⟩

theorem labelsText_no_lf (L : List (Str × Str)) (h : ∀ y ∈ L, isValidLabelName y.1 = true) : (10 : UInt8) ∉ labelsText L := by
  cases L with
  | nil => simp [labelsText]
  | cons x L =>
    simp only [labelsText, List.mem_cons, List.mem_append, List.mem_flatMap, List.not_mem_nil, or_false, not_or, not_exists, not_and]
    exact ⟨by decide, labelItem_no_lf x (h x (by simp)), fun y hy => ⟨by decide, labelItem_no_lf y (h y (by simp [hy]))⟩, by decide⟩

theorem readLabels_item (f : Nat) (x : Str × Str) (tail : Str) (acc : List (Str × Str))
    (hn : isValidLabelName x.1 = true) :
    readLabels (f + 1) (labelItem x ++ tail) acc =
      match tail with
      | 44 :: r3 => readLabels f r3 (x :: acc)
      | 125 :: r3 => some ((x :: acc).reverse, r3)
      | _ => none := by
  obtain ⟨c, n', hname, hnb⟩ := labelName_bytes hn
  have hc125 : c ≠ 125 := (nameByte_ne (hnb c (by simp [hname]))).2.2.2
  have e : labelItem x ++ tail = x.1 ++ 61 :: 34 :: (escapeString true x.2 ++ 34 :: tail) := by simp [labelItem]
  obtain ⟨htw, hdw⟩ := takeDropWhile_delim isNameByte x.1 61 (34 :: (escapeString true x.2 ++ 34 :: tail)) hnb (by decide)
  have hq : readQuoted (escapeString true x.2 ++ 34 :: tail) [] = some (escapeString true x.2, tail) := by
    rw [Esc.escape_eq_flatMap, Esc.quoted_value_reads_back]; simp
  have hne : x.1.isEmpty = false := by rw [hname]; rfl
  rw [e, readLabels, htw, hdw]
  · simp only [hne, Bool.false_eq_true, if_false, hq, Esc.unescape_escape]
    rfl
  · -- the side condition of that equation of `readLabels`: the text does not begin with `}`, but with a name byte
    intro r heq
    rw [hname] at heq
    exact hc125 (List.cons.inj heq).1

theorem readLabels_items (rest : Str) (L : List (Str × Str)) (x : Str × Str) (acc : List (Str × Str)) (f : Nat)
    (hval : ∀ y ∈ x :: L, isValidLabelName y.1 = true)
    (hlen : (labelItem x ++ (L.flatMap (fun y => 44 :: labelItem y) ++ 125 :: rest)).length ≤ f) :
    readLabels f (labelItem x ++ (L.flatMap (fun y => 44 :: labelItem y) ++ 125 :: rest)) acc
      = some (acc.reverse ++ x :: L, rest) := by
  rw [List.forall_mem_cons] at hval
  induction L generalizing x acc f with
  | nil =>
    cases f with
    | zero => simp [labelItem] at hlen
    | succ f => simp [readLabels_item f x _ acc hval.1]
  | cons y L ih =>
    cases f with
    | zero => simp [labelItem] at hlen
    | succ f =>
      simp only [List.flatMap_cons, List.cons_append, List.append_assoc] at hlen ⊢
      rw [readLabels_item f x _ acc hval.1]
      simp only []
      rw [ih y (x :: acc) f (List.forall_mem_cons.1 hval.2)]
      · simp
      · simp only [List.length_append, List.length_cons] at hlen ⊢
        omega

/-- the label block of `parseSampleLine` (what stands between the name and the blank before the value): the labels
    between `{` and `}`, or none -/
def labelBlock (r : Str) : Option (List (Str × Str) × Str) :=
  match r with
  | 123 :: r1 => readLabels (r1.length + 1) r1 []
  | _ => some ([], r)

theorem labelBlock_blank (t : Str) : labelBlock (32 :: t) = some ([], 32 :: t) := rfl
theorem labelBlock_brace (t : Str) : labelBlock (123 :: t) = readLabels (t.length + 1) t [] := rfl

theorem labelsText_head (L : List (Str × Str)) (t : Str) :
    ∃ d r, labelsText L ++ 32 :: t = d :: r ∧ isNameByte d = false := by
  cases L with
  | nil => exact ⟨32, t, rfl, by decide⟩
  | cons x L => exact ⟨123, _, rfl, by decide⟩

theorem labelBlock_labelsText (L : List (Str × Str)) (t : Str) (h : ∀ y ∈ L, isValidLabelName y.1 = true) :
    labelBlock (labelsText L ++ 32 :: t) = some (L, 32 :: t) := by
  cases L with
  | nil => exact labelBlock_blank t
  | cons x L =>
    have e : labelsText (x :: L) ++ 32 :: t = 123 :: (labelItem x ++ (L.flatMap (fun y => 44 :: labelItem y) ++ 125 :: 32 :: t)) := by
      simp [labelsText]
    rw [e, labelBlock_brace, readLabels_items _ L x [] _ h (Nat.le_succ _)]
    rfl

/-- what `write_sample` appends after the value: a blank and the timestamp, unless it is 0 -/
def tsPart (s : Sample) : Str := if s.ts != 0 then 32 :: intToStr s.ts else []

/-- the part of `parseSampleLine` after the label block -/
def afterLabels (name : Str) (labels : List (Str × Str)) (r2 : Str) : Option PSample :=
  match r2 with
  | 32 :: r3 =>
    let (vtxt, r4) := splitSpace r3
    match parseFloat vtxt with
    | none => none
    | some v =>
      if r4.isEmpty then
        if r3.length == vtxt.length then some ⟨name, labels, v, 0⟩ else none
      else match parseInt r4 with
        | some t => some ⟨name, labels, v, t⟩
        | none => none
  | _ => none

theorem parseSampleLine_eq (l : Str) :
    parseSampleLine l =
      (if (l.takeWhile isNameByte).isEmpty then none else
       match labelBlock (l.dropWhile isNameByte) with
       | none => none
       | some (labels, r2) => afterLabels (l.takeWhile isNameByte) labels r2) := rfl

theorem afterLabels_ok (fmt : UInt64 → Str) (nm : Str) (labels : List (Str × Str)) (s : Sample) (v : UInt64)
    (hv : parseFloat (fmt v) = some (canonF64 v)) (hc : ∀ b ∈ fmt v, cleanByte b) :
    afterLabels nm labels (32 :: (fmt v ++ tsPart s)) = some ⟨nm, labels, canonF64 v, s.ts⟩ := by
  have ht := int_roundtrip s.ts
  have hp : ∀ b ∈ fmt v, b ≠ 32 := fun b hb => (hc b hb).1
  unfold afterLabels tsPart
  by_cases h0 : s.ts = 0
  · simp [h0, splitSpace_all _ hp, hv]
  · have hne : (intToStr s.ts).isEmpty = false := by
      cases hi : intToStr s.ts with
      | nil => have := ht.1; rw [hi] at this; simp [parseInt] at this
      | cons a t => rfl
    simp [h0, splitSpace_app _ _ hp, hv, hne, ht.1]

theorem sampleLine_eq (fmt : UInt64 → Str) (name pfx : Str) (s : Sample) (extra : Option (Str × Str)) (v : UInt64) :
    sampleLine fmt name pfx s extra v
      = (name ++ pfx) ++ (labelsText (pairsOf s.labels ++ extra.toList) ++ 32 :: (fmt v ++ tsPart s)) := by
  simp [sampleLine, labelPairsToText_eq, tsPart, bs_sp]

theorem labels_valid (s : Sample) (extra : Option (Str × Str))
    (hl : ∀ l ∈ s.labels, isValidLabelName l.name = true) (he : ∀ e, extra = some e → isValidLabelName e.1 = true) :
    ∀ y ∈ pairsOf s.labels ++ extra.toList, isValidLabelName y.1 = true := by
  intro y hy
  rcases List.mem_append.1 hy with hy | hy
  · obtain ⟨l, hl', rfl⟩ := List.mem_map.1 hy
    exact hl l hl'
  · exact he y (by simpa using hy)

theorem parseLine_sample (fmt : UInt64 → Str) (name pfx : Str) (s : Sample) (extra : Option (Str × Str)) (v : UInt64)
    (hn : isValidMetricName name = true) (hp : pfx.all isNameByte = true)
    (hl : ∀ l ∈ s.labels, isValidLabelName l.name = true)
    (he : ∀ e, extra = some e → isValidLabelName e.1 = true)
    (hv : parseFloat (fmt v) = some (canonF64 v)) (hc : ∀ b ∈ fmt v, cleanByte b) :
    parseLine (sampleLine fmt name pfx s extra v) = some (expSample name pfx s extra v) := by
  obtain ⟨c, n', hname, hnb⟩ := metricName_bytes hn
  have hc35 : c ≠ 35 := (nameByte_ne (hnb c (by simp [hname]))).2.2.1
  have hnp : ∀ b ∈ name ++ pfx, isNameByte b = true := fun b hb =>
    (List.mem_append.1 hb).elim (hnb b) (List.all_eq_true.1 hp b)
  have hLval := labels_valid s extra hl he
  have hnot : ∀ p : Str, List.isPrefixOf (35 :: p) (sampleLine fmt name pfx s extra v) = false := by
    rw [sampleLine_eq, hname]
    simp [List.isPrefixOf, Ne.symm hc35]
  have hne : (name ++ pfx).isEmpty = false := by rw [hname]; rfl
  unfold parseLine
  rw [bs_help, bs_type, hnot, hnot, parseSampleLine_eq, sampleLine_eq]
  obtain ⟨d, r, e, hd⟩ := labelsText_head (pairsOf s.labels ++ extra.toList) (fmt v ++ tsPart s)
  obtain ⟨h1, h2⟩ := takeDropWhile_delim isNameByte (name ++ pfx) d r hnp hd
  rw [e, h1, h2, ← e, labelBlock_labelsText _ _ hLval]
  simp only [hne, Bool.false_eq_true, if_false]
  rw [afterLabels_ok fmt _ _ s v hv hc]
  rfl

theorem sampleLine_no_lf (fmt : UInt64 → Str) (name pfx : Str) (s : Sample) (extra : Option (Str × Str)) (v : UInt64)
    (hn : isValidMetricName name = true) (hp : pfx.all isNameByte = true)
    (hl : ∀ l ∈ s.labels, isValidLabelName l.name = true)
    (he : ∀ e, extra = some e → isValidLabelName e.1 = true)
    (hc : ∀ b ∈ fmt v, cleanByte b) :
    (10 : UInt8) ∉ sampleLine fmt name pfx s extra v := by
  obtain ⟨_, _, _, hnb⟩ := metricName_bytes hn
  rw [sampleLine_eq, tsPart]
  simp only [List.mem_append, List.mem_cons, not_or]
  refine ⟨⟨fun h => (nameByte_ne (hnb _ h)).1 rfl, fun h => (nameByte_ne (List.all_eq_true.1 hp _ h)).1 rfl⟩,
    labelsText_no_lf _ (labels_valid s extra hl he), by decide, fun h => (hc _ h).2.1 rfl, ?_⟩
  split
  · simp only [List.mem_cons, not_or]; exact ⟨by decide, fun h => ((int_roundtrip s.ts).2 _ h).2 rfl⟩
  · simp

end Prom.C04.RT
