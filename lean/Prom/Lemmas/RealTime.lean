import Prom.Model.Conc
import Prom.Lemmas.ListAux
/-
The ghost commit log of a replay machine whose threads are `Conc.Th` and whose log entries carry `(tid, idx)` =
(thread, index of the call whose step appended the entry). A machine state is seen through a `View` (its threads, the
tags of its log entries in log order); `Step` is what every accepted item of the cell, vector and registry machines
does to the view; `Bound` / `Inv` are the log invariants, `Ext` says what a continuation adds. `Lemmas/Replay.lean`
says what a machine has to prove about its item function, and derives the real-time order of its runs.
-/
namespace Prom.RT
open Prom.Conc

/-- the part of a machine state the real-time argument looks at -/
structure View (Pc : Type) where
  ths : List (Th Pc)
  log : List (Nat × Nat)

/-- a call of the thread is open (`pc`) or complete and waiting for its return mark (`retv`) -/
def busy {Pc} (th : Th Pc) : Bool := th.pc.isSome || th.retv.isSome

/-- one accepted item: one thread `t` is replaced, it keeps its program, its call index does not
    decrease, and the log stays as it is or gets ONE new entry `(t, idx of t)` - the latter only by a
    thread whose call is open (`pc ≠ none`), and then the call index stays. The weakening of `ItemStep`
    (`Lemmas/Replay.lean`) to views that `Replay.step_view` proves: enough for `Bound` and `Ext`, not for `Inv`. -/
def Step {Pc} (v v' : View Pc) : Prop :=
  ∃ t th th', v.ths[t]? = some th ∧ v'.ths = v.ths.set t th' ∧ th'.ops = th.ops ∧ th.idx ≤ th'.idx ∧
    (v'.log = v.log ∨ (th'.idx = th.idx ∧ th.pc.isSome = true ∧ v'.log = v.log ++ [(t, th.idx)]))

/-- the invariants `Bound`, `Inv` (and the tag invariant of the histogram machine) say that every log entry belongs
    to a thread with some property `R`: when one thread is replaced, only that thread has to be looked at -/
theorem log_set {Pc} {R : Nat → Th Pc → Prop} {ths : List (Th Pc)} {log : List (Nat × Nat)} {t : Nat} {th th' : Th Pc}
    (h : ∀ x ∈ log, ∃ y, ths[x.1]? = some y ∧ R x.2 y) (hth : ths[t]? = some th) (hR : ∀ i, R i th → R i th') :
    ∀ x ∈ log, ∃ y, (ths.set t th')[x.1]? = some y ∧ R x.2 y := by
  intro x hx
  obtain ⟨y, hy, hr⟩ := h x hx
  rw [getElem?_set_of_some hth]
  by_cases e : t = x.1
  · rw [← e, hth] at hy; cases hy
    exact ⟨th', by simp [e], hR _ hr⟩
  · exact ⟨y, by simp [e, hy], hr⟩

theorem Step.th_pres {Pc} {v v' : View Pc} (h : Step v v') {u : Nat} {thu : Th Pc} (hu : v.ths[u]? = some thu) :
    ∃ thu', v'.ths[u]? = some thu' ∧ thu'.ops = thu.ops ∧ thu.idx ≤ thu'.idx := by
  obtain ⟨t, th, th', hth, hs, hops, hidx, _⟩ := h
  rw [hs, getElem?_set_of_some hth]
  by_cases htu : t = u
  · subst htu
    rw [hth] at hu; cases hu
    exact ⟨th', by simp, hops, hidx⟩
  · exact ⟨thu, by simp [htu, hu], rfl, Nat.le_refl _⟩

theorem Step.length {Pc} {v v' : View Pc} (h : Step v v') : v'.ths.length = v.ths.length := by
  obtain ⟨t, th, th', _, hs, _⟩ := h
  rw [hs, List.length_set]

theorem Step.log_prefix {Pc} {v v' : View Pc} (h : Step v v') : v.log <+: v'.log := by
  obtain ⟨t, th, th', _, _, _, _, hl | ⟨_, _, hl⟩⟩ := h
  · rw [hl]; exact List.prefix_refl _
  · rw [hl]; exact List.prefix_append _ _

/-- every log entry belongs to an existing thread and to a call that thread has at least reached -/
def Bound {Pc} (v : View Pc) : Prop :=
  ∀ x ∈ v.log, ∃ th, v.ths[x.1]? = some th ∧ x.2 ≤ th.idx

/-- every log entry belongs to an existing thread, and to a call that has returned (`idx` below the
    thread's) or to the thread's current call, which is then open or complete (not "not started") -/
def Inv {Pc} (v : View Pc) : Prop :=
  ∀ x ∈ v.log, ∃ th, v.ths[x.1]? = some th ∧ (x.2 < th.idx ∨ (x.2 = th.idx ∧ busy th = true))

theorem Inv.bound {Pc} {v : View Pc} (h : Inv v) : Bound v := by
  intro x hx
  obtain ⟨th, hth, h⟩ := h x hx
  exact ⟨th, hth, by omega⟩

theorem Step.bound {Pc} {v v' : View Pc} (hb : Bound v) (h : Step v v') : Bound v' := by
  obtain ⟨t, th, th', hth, hs, hops, hidx, hl⟩ := h
  have old := log_set (R := fun i y => i ≤ y.idx) hb hth fun i hi => Nat.le_trans hi hidx
  intro x hx
  rw [hs]
  rcases hl with hl | ⟨_, _, hl⟩ <;> rw [hl] at hx
  · exact old x hx
  · rcases List.mem_append.1 hx with hx | hx
    · exact old x hx
    · rw [List.mem_singleton.1 hx, getElem?_set_of_some hth]
      exact ⟨th', by simp, hidx⟩

theorem Bound.no_entry_future {Pc} {v : View Pc} (hb : Bound v) {t i : Nat} {th : Th Pc}
    (hth : v.ths[t]? = some th) (hi : th.idx < i) : ∀ x ∈ v.log, x ≠ (t, i) := by
  intro x hx he
  subst he
  obtain ⟨th0, h0, hle⟩ := hb _ hx
  rw [hth] at h0; cases h0
  omega

theorem Inv.no_entry_idle {Pc} {v : View Pc} (hv : Inv v) {t i : Nat} {th : Th Pc}
    (hth : v.ths[t]? = some th) (hi : i = th.idx) (hpc : th.pc = none) (hrv : th.retv = none) :
    ∀ x ∈ v.log, x ≠ (t, i) := by
  intro x hx he
  subst he
  obtain ⟨th0, h0, hle⟩ := hv _ hx
  rw [hth] at h0; cases h0
  rcases hle with h | ⟨_, h⟩
  · omega
  · simp [busy, hpc, hrv] at h

/-- `v'` continues `v`: same threads (programs kept, call indices only grown), the log of `v` is a
    prefix of the log of `v'`, and every entry appended since carries `(tid, idx)` of a call that had
    not returned in `v` (`idx` at least the thread's call index in `v`) -/
def Ext {Pc} (v v' : View Pc) : Prop :=
  v'.ths.length = v.ths.length ∧
  (∀ (t : Nat) (th : Th Pc), v.ths[t]? = some th → ∃ th' : Th Pc, v'.ths[t]? = some th' ∧ th'.ops = th.ops ∧ th.idx ≤ th'.idx) ∧
  ∃ ext, v'.log = v.log ++ ext ∧ ∀ x ∈ ext, ∃ th, v.ths[x.1]? = some th ∧ th.idx ≤ x.2

theorem Ext.refl {Pc} (v : View Pc) : Ext v v :=
  ⟨rfl, fun _ th h => ⟨th, h, rfl, Nat.le_refl _⟩, [], by simp, by simp⟩

theorem Ext.step {Pc} {v v' v'' : View Pc} (h : Ext v v') (hs : Step v' v'') : Ext v v'' := by
  obtain ⟨hlen, hpres, ext, hlog, hext⟩ := h
  refine ⟨hs.length.trans hlen, ?_, ?_⟩
  · intro t th hth
    obtain ⟨th1, h1, ho1, hi1⟩ := hpres t th hth
    obtain ⟨th2, h2, ho2, hi2⟩ := hs.th_pres h1
    exact ⟨th2, h2, ho2.trans ho1, Nat.le_trans hi1 hi2⟩
  · obtain ⟨t, th, th', hth, _, _, _, hl | ⟨_, _, hl⟩⟩ := hs
    · exact ⟨ext, by rw [hl, hlog], hext⟩
    · refine ⟨ext ++ [(t, th.idx)], by rw [hl, hlog, List.append_assoc], ?_⟩
      intro x hx
      rcases List.mem_append.1 hx with hx | hx
      · exact hext x hx
      · simp only [List.mem_singleton] at hx
        subst hx
        have hlt : t < v.ths.length := by
          rw [← hlen]; exact lt_of_getElem? hth
        obtain ⟨th0, h0⟩ : ∃ th0, v.ths[t]? = some th0 := ⟨v.ths[t], List.getElem?_eq_getElem hlt⟩
        obtain ⟨th1, h1, _, hi1⟩ := hpres t th0 h0
        rw [hth] at h1; cases h1
        exact ⟨th0, h0, hi1⟩

theorem Ext.log_prefix {Pc} {v v' : View Pc} (h : Ext v v') : v.log <+: v'.log := by
  obtain ⟨_, _, ext, hlog, _⟩ := h
  exact ⟨ext, hlog.symm⟩

end Prom.RT
