import Prom.Model.RegMachine
import Prom.Lemmas.Replay
import Prom.Lemmas.RegistryInv
/-
The registry machine `RM.item` (C06; C07 `concurrent_gather_explained`), analysed once. What other files rest on: an
accepted event leaves registry and commit log alone or performs ONE operation of the sequential registry model and
records it (`REv`, `rStep_okAll`), a mark touches one thread only; `rItem_linInv`, `rReplay`. Before that, exhibits of
what the model accepts: the four `step_unreg_*` equations say what `RM.step` is on each step of the pre-checked
`unregister` (read lock with the collector absent / present, read unlock, write lock).
-/
namespace Prom.C06
open Prom.Conc Prom.RM Prom.RT

/-- run the sequential registry model over a commit log, checking every recorded result -/
def specRunR (colls : List Coll) : Reg → List RLin → Option Reg
  | r, [] => some r
  | r, l :: t => if (specApply colls r l.op).2 = l.res then specRunR colls (specApply colls r l.op).1 t else none

theorem specRunR_append (colls : List Coll) (r : Reg) (l : List RLin) (x : RLin) :
    specRunR colls r (l ++ [x]) = (specRunR colls r l).bind fun r' => specRunR colls r' [x] := by
  induction l generalizing r with
  | nil => rfl
  | cons a t ih =>
    simp only [List.cons_append, specRunR]
    split
    · exact ih _
    · rfl

theorem showErr_ne_ok (e : RErr) : showErr e ≠ "ok" := by
  cases e <;> decide

theorem specApply_unreg_some {colls : List Coll} {i : Nat} {c : Coll} (hc : colls[i]? = some c) (r : Reg) :
    RM.specApply colls r (.unregister i) =
      ((r.unregister c).1, match (r.unregister c).2 with | .ok _ => "ok" | .error e => showErr e) := by
  simp only [RM.specApply, hc]
  rcases r.unregister c with ⟨r', _ | _⟩ <;> rfl

theorem specApply_unreg_none {colls : List Coll} {i : Nat} (hc : colls[i]? = none) (r : Reg) :
    RM.specApply colls r (.unregister i) = (r, "no-coll") := by
  simp only [RM.specApply, hc]

theorem unregFails_iff (colls : List Coll) (r : Reg) (i : Nat) :
    unregFails colls r i = true ↔ (RM.specApply colls r (.unregister i)).2 ≠ "ok" := by
  rcases hc : colls[i]? with _ | c
  · rw [specApply_unreg_none hc]
    simp only [unregFails, hc]
    decide
  · rw [specApply_unreg_some hc]
    simp only [unregFails, hc]
    rcases (r.unregister c).2 with e | u
    · simpa using showErr_ne_ok e
    · simp

theorem unregFails_noop (colls : List Coll) (r : Reg) (i : Nat) (h : unregFails colls r i = true) :
    (RM.specApply colls r (.unregister i)).1 = r := by
  rcases hc : colls[i]? with _ | c
  · rw [specApply_unreg_none hc]
  · rw [specApply_unreg_some hc]
    simp only [unregFails, hc] at h
    rcases unregister_cases r c with ⟨_, h'⟩ | ⟨_, h'⟩ <;> rw [h'] at h ⊢
    cases h

/-- the read lock of a pre-checked `unregister i` whose collector is NOT registered commits the refused unregister -/
theorem step_unreg_precheck_absent {s : RM.St} {e : Ev} {th : Th RPc} {op : String} {i : Nat}
    (hth : s.ths[e.tid]? = some th) (hpc : th.pc = some (.start op)) (hop : parseOp op = some (.unregister i))
    (hk : e.k = "R") (hloc : e.loc = "lk") (hw : s.lockW = none) (hf : unregFails s.colls s.reg i = true) :
    RM.step s e = .ok { s with
      lin := s.lin ++ [⟨e.tid, th.idx, .unregister i, (specApply s.colls s.reg (.unregister i)).2⟩],
      lockR := e.tid :: s.lockR,
      ths := s.ths.set e.tid { th with pc := some (.unrRheld i (some (specApply s.colls s.reg (.unregister i)).2)) } } := by
  have hn := unregFails_noop s.colls s.reg i hf
  unfold RM.step
  simp only [hth, hpc, hop, hk, hloc, hw, hf, Conc.guard, rEff, hn, beq_self_eq_true, Option.isNone_none, if_true]

/-- the read lock of a pre-checked `unregister i` whose collector IS registered commits nothing -/
theorem step_unreg_precheck_present {s : RM.St} {e : Ev} {th : Th RPc} {op : String} {i : Nat}
    (hth : s.ths[e.tid]? = some th) (hpc : th.pc = some (.start op)) (hop : parseOp op = some (.unregister i))
    (hk : e.k = "R") (hloc : e.loc = "lk") (hw : s.lockW = none) (hf : unregFails s.colls s.reg i = false) :
    RM.step s e = .ok { s with
      lockR := e.tid :: s.lockR,
      ths := s.ths.set e.tid { th with pc := some (.unrRheld i none) } } := by
  unfold RM.step
  simp only [hth, hpc, hop, hk, hloc, hw, hf, Conc.guard, beq_self_eq_true, Option.isNone_none, if_true]
  rfl

/-- the read unlock of the pre-check completes the call if a result was committed, else the write lock is expected -/
theorem step_unreg_precheck_unlock {s : RM.St} {e : Ev} {th : Th RPc} {i : Nat} {done : Option String}
    (hth : s.ths[e.tid]? = some th) (hpc : th.pc = some (.unrRheld i done)) (hk : e.k = "r") (hloc : e.loc = "lk") :
    RM.step s e = .ok { s with
      lockR := s.lockR.erase e.tid,
      ths := s.ths.set e.tid (match done with
        | some rv => { th with pc := none, retv := some rv }
        | none => { th with pc := some (.unrNeedW i) }) } := by
  unfold RM.step
  simp only [hth, hpc, hk, hloc, Conc.guard, beq_self_eq_true, Bool.and_self, if_true]
  cases done <;> rfl

/-- the write lock after a pre-check that found the collector decides on the registry as it is NOW -/
theorem step_unreg_needW {s : RM.St} {e : Ev} {th : Th RPc} {i : Nat}
    (hth : s.ths[e.tid]? = some th) (hpc : th.pc = some (.unrNeedW i)) (hk : e.k = "X") (hloc : e.loc = "lk")
    (hw : s.lockW = none) (hr : s.lockR = []) :
    RM.step s e = .ok { s with
      reg := (specApply s.colls s.reg (.unregister i)).1,
      lin := s.lin ++ [⟨e.tid, th.idx, .unregister i, (specApply s.colls s.reg (.unregister i)).2⟩],
      lockW := some e.tid,
      ths := s.ths.set e.tid { th with pc := some (.held true (specApply s.colls s.reg (.unregister i)).2) } } := by
  unfold RM.step
  simp only [hth, hpc, hk, hloc, hw, hr, Conc.guard, rEff, beq_self_eq_true, Option.isNone_none, List.isEmpty_nil,
    Bool.and_self, if_true]

/-- an accepted event of thread `e.tid`, in call `th.idx`: the thread keeps program and call index and is
    busy afterwards, the collectors stay, and registry and log stay (`frame`) or ONE operation of the specification
    is performed and recorded for this thread and call (`eff`: `rEff`) - which, unless the event is a write-lock
    acquisition, leaves the registry as it is -/
inductive REv (s : RM.St) (e : Ev) (th : Th RPc) (s' : RM.St) : Prop
  | frame (th' : Th RPc) (h1 : s'.ths = s.ths.set e.tid th') (h2 : th'.ops = th.ops) (h3 : th'.idx = th.idx)
      (h4 : busy th' = true) (hc : s'.colls = s.colls) (h5 : s'.reg = s.reg) (h6 : s'.lin = s.lin)
  | eff (th' : Th RPc) (op : RM.ROp) (h1 : s'.ths = s.ths.set e.tid th') (h2 : th'.ops = th.ops) (h3 : th'.idx = th.idx)
      (h4 : busy th' = true) (hc : s'.colls = s.colls) (h5 : s'.reg = (rEff s e.tid th.idx op).1.reg)
      (h6 : s'.lin = (rEff s e.tid th.idx op).1.lin) (h7 : e.k = "X" ∨ s'.reg = s.reg)

theorem rStep_okAll {s : RM.St} {e : Ev} :
    OkAll (fun s' => ∃ th, s.ths[e.tid]? = some th ∧ th.pc.isSome = true ∧ REv s e th s') (RM.step s e) := by
  unfold RM.step
  split
  · exact okAll_error.2 trivial
  next th hth =>
  split
  · exact okAll_error.2 trivial
  next pc hpc =>
  refine OkAll.imp (P := REv s e th) (fun s' H => ⟨th, hth, by simp [hpc], H⟩) ?_
  cases pc with
  | start op =>
    simp only []
    cases parseOp op with
    | none => exact okAll_error.2 trivial
    | some rop =>
      cases rop with
      | gather =>
        simp only [okAll_guard, okAll_ok]
        exact fun _ _ => .eff _ .gather rfl rfl rfl rfl rfl rfl rfl (.inr rfl)
      | unregister i =>
        simp only [okAll_guard, okAll_ok, okAll_ite]
        refine ⟨fun _ _ _ => ⟨fun hf => ?_, fun _ => ?_⟩, fun _ hg _ => ?_⟩
        · -- the pre-check commits a refused unregister, which changes nothing
          exact .eff _ (.unregister i) rfl rfl rfl rfl rfl rfl rfl (.inr (unregFails_noop _ _ _ hf))
        · exact .frame _ rfl rfl rfl rfl rfl rfl rfl
        · exact .eff _ (.unregister i) rfl rfl rfl rfl rfl rfl rfl (.inl (beq_of_and hg))
      | register i =>
        simp only [okAll_guard, okAll_ok]
        exact fun hg _ => .eff _ (.register i) rfl rfl rfl rfl rfl rfl rfl (.inl (beq_of_and hg))
  | held write rv =>
    simp only [okAll_guard, okAll_ok, okAll_ite]
    exact ⟨fun _ _ => .frame _ rfl rfl rfl rfl rfl rfl rfl,
      fun _ _ => .frame _ rfl rfl rfl rfl rfl rfl rfl⟩
  | unrRheld i done =>
    simp only [okAll_guard]
    intro _
    cases done with
    | none => exact okAll_ok.2 (.frame _ rfl rfl rfl rfl rfl rfl rfl)
    | some rv => exact okAll_ok.2 (.frame _ rfl rfl rfl rfl rfl rfl rfl)
  | unrNeedW i =>
    simp only [okAll_guard, okAll_ok]
    exact fun hg _ => .eff _ (.unregister i) rfl rfl rfl rfl rfl rfl rfl (.inl (beq_of_and hg))

theorem rItem_call {s s' : RM.St} {t : Nat} {i op : String} (h : RM.item s (.call t i op) = .ok s') :
    ∃ th th', s.ths[t]? = some th ∧ s' = { s with ths := s.ths.set t th' } ∧
      th'.ops = th.ops ∧ th'.idx = th.idx ∧ busy th' = true := by
  simp only [RM.item] at h
  split at h
  · cases h
  · next th hth =>
    split at h
    · next th' ho =>
      cases h
      exact ⟨th, th', hth, rfl, openCall_busy (mk := fun op => some (.start op)) (skip := fun _ => false) (fun _ => rfl)
        (openCall_okAll _ _ _ _ _ th' ho).2.2.2⟩
    · cases h

theorem rItem_ret {s s' : RM.St} {t : Nat} {i v : String} (h : RM.item s (.ret t i v) = .ok s') :
    ∃ th th', s.ths[t]? = some th ∧ s' = { s with ths := s.ths.set t th' } ∧
      th'.ops = th.ops ∧ th'.idx = th.idx + 1 := by
  simp only [RM.item] at h
  split at h
  · cases h
  · next th hth =>
    split at h
    · next th' hc =>
      cases h
      obtain ⟨_, rfl⟩ := closeCall_okAll _ _ _ th' hc
      exact ⟨th, _, hth, rfl, rfl, rfl⟩
    · cases h

theorem rItem_linInv {colls : List Coll} {s s' : RM.St} {it : Item}
    (hi : s.colls = colls ∧ specRunR colls {} s.lin = some s.reg) (h : RM.item s it = .ok s') :
    s'.colls = colls ∧ specRunR colls {} s'.lin = some s'.reg := by
  cases it with
  | ev e =>
    obtain ⟨th, _, _, hv⟩ := rStep_okAll _ h
    cases hv with
    | frame _ _ _ _ _ hc hr hl => rw [hc, hr, hl]; exact hi
    | eff _ op _ _ _ _ hc hr hl =>
      refine ⟨hc.trans hi.1, ?_⟩
      rw [hr, hl]
      simp only [RM.rEff, specRunR_append, hi.2, Option.bind_some, specRunR, hi.1, if_true]
  | call t i op => obtain ⟨_, _, _, rfl, _⟩ := rItem_call h; exact hi
  | ret t i v => obtain ⟨_, _, _, rfl, _⟩ := rItem_ret h; exact hi
  | other x => simp [RM.item] at h

theorem rItem_itemStep {s s' : RM.St} {it : Item} (h : RM.item s it = .ok s') :
    ItemStep false RLin.tid RLin.idx s.ths s'.ths s.lin s'.lin it := by
  cases it with
  | ev e =>
    obtain ⟨th, hth, hp, hv⟩ := rStep_okAll _ h
    cases hv with
    | frame th' hs hops hidx hb _ _ hl => exact ⟨e.tid, th, th', hth, hs, hops, .inr ⟨hidx, hb, .inl hl⟩⟩
    | eff th' op hs hops hidx hb _ _ hl =>
      exact ⟨e.tid, th, th', hth, hs, hops, .inr ⟨hidx, hb, .inr ⟨e, _, rfl, rfl, hp, hl, rfl, rfl⟩⟩⟩
  | call t i op =>
    obtain ⟨th, th', hth, rfl, hops, hidx, hb⟩ := rItem_call h
    exact ⟨t, th, th', hth, rfl, hops, .inr ⟨hidx, hb, .inl rfl⟩⟩
  | ret t i v =>
    obtain ⟨th, th', hth, rfl, hops, hidx⟩ := rItem_ret h
    exact ⟨t, th, th', hth, rfl, hops, .inl ⟨rfl, .inl hidx⟩⟩
  | other x => simp [RM.item] at h

def rReplay : Replay RM.St RPc RLin :=
  { item := RM.item, ths := (·.ths), lin := (·.lin), tid := (·.tid), idx := (·.idx), sub := false,
    step := rItem_itemStep }

end Prom.C06
