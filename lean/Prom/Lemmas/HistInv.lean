import Prom.Lemmas.HistRefine
import Prom.HP.Order
/-
The ghost invariants of the replay machine, each read off `evStep_acc` / `item_cases`: `CutInv` (what a collect call
returns, and where its cut lies relative to the call's own start and end: the real-time part of C02), `TagInv` (the
tags are parallel to `claimed`, one thread's observations are claimed in program order), `TagObsInv` (the observation
at a tagged position is the one the program's call makes; hence `ObsInv`). Props/C02 takes from here the `*_reach`
theorems and `cut_prefix`, `tags_call_order` / `cut_per_thread_prefix`, `cut_valss`.
-/
namespace Prom.HM
open Prom.Conc Hp

/-- the observation an observer task carries -/
def obsOfTask : Task → Option Obs
  | .obsStart o => some o
  | .obsRun o _ _ => some o
  | _ => none

def obsOfPc (pc : Pc) : Option Obs := pc.task.bind obsOfTask

section
variable {k : Nat} {c c' : Hp.St} {t : Task} {t' : Option Task}

theorem TaskStep.not_obsStart (h : TaskStep k c t c' t') (o : Obs) : t' ≠ some (.obsStart o) := by
  cases h <;> simp

theorem TaskStep.obs (h : TaskStep k c t c' t') (o : Obs) (ho : t'.bind obsOfTask = some o) :
    obsOfTask t = some o := by
  cases h <;> first | exact ho | cases ho

theorem TaskStep.cut (h : TaskStep k c t c' t') (S : List Obs) (hS : t'.bind cutOf = some S) :
    cutOf t = some S ∨ S = c.claimed := by
  cases h with
  | flip => exact .inr (Option.some.inj hS).symm
  | _ => first | exact .inl hS | cases hS

end

section
variable {k : Nat} {c : Hp.St} {cuts : Cuts} {pc : Pc} {c' : Hp.St} {pc' : Pc} {rv : Option String} {cuts' : Cuts}

theorem Accepts.obsStart (h : Accepts k c cuts pc ((c', pc', rv), cuts')) (o : Obs) (ho : pc'.task = some (.obsStart o)) :
    pc'.task = pc.task ∧ c'.claimed = c.claimed := by
  cases h with
  | stutter _ _ ht => exact ⟨ht, rfl⟩
  | step _ _ _ _ hs => exact absurd ho (hs.not_obsStart o)
  | skip _ _ _ _ _ h2 => exact absurd ho (h2.not_obsStart o)
  | unlock _ _ _ _ _ _ ht' => rw [ht'] at ho; cases ho

theorem Accepts.obs (h : Accepts k c cuts pc ((c', pc', rv), cuts')) (o : Obs) (ho : obsOfPc pc' = some o) :
    obsOfPc pc = some o := by
  unfold obsOfPc at ho ⊢
  cases h with
  | stutter _ _ ht => rw [← ht]; exact ho
  | step _ _ ht _ hs => rw [ht]; exact hs.obs o ho
  | skip _ ht _ _ h1 h2 => rw [ht]; exact h1.obs o (h2.obs o ho)
  | unlock _ _ _ _ _ _ ht' => rw [ht'] at ho; cases ho

theorem Accepts.cut (h : Accepts k c cuts pc ((c', pc', rv), cuts')) :
    pc'.c0 = pc.c0 ∧ c.claimed <+: c'.claimed ∧
    (∀ S, pc'.task.bind cutOf = some S → pc.task.bind cutOf = some S ∨ S = c.claimed) ∧
    ((cuts' = cuts ∧ c'.snaps = c.snaps) ∨
     ∃ S ov taken, pc.task.bind cutOf = some S ∧ cuts' = cuts ++ [⟨pc.c0, S, c.claimed, showSnap k ov taken⟩] ∧
       c'.snaps = c.snaps ++ [(⟨ov, taken⟩, S)]) := by
  have hcl := h.claimed
  refine ⟨?_, ?_, ?_, ?_⟩
  · cases h <;> assumption
  · rcases hcl with h | ⟨_, _, h⟩ <;> rw [h]
    · exact List.prefix_refl _
    · exact List.prefix_append _ _
  · intro S hS
    cases h with
    | stutter _ _ ht => rw [← ht]; exact .inl hS
    | step _ _ ht _ hs => rw [ht]; exact hs.cut S hS
    | skip _ ht _ _ h1 h2 =>
      rw [ht]
      rcases h2.cut S hS with h | h
      · exact h1.cut S h
      · exact .inr h
    | unlock _ _ _ _ _ _ ht' => rw [ht'] at hS; cases hS
  · cases h with
    | stutter => exact .inl ⟨rfl, rfl⟩
    | step _ _ _ _ _ hn => exact .inl ⟨rfl, hn⟩
    | skip _ _ _ hc => exact .inl ⟨rfl, hc ▸ rfl⟩
    | unlock cold ov taken S _ ht => exact .inr ⟨S, ov, taken, by rw [ht]; rfl, rfl, rfl⟩

end

/-- `thr`: the `c0` of an open call is a prefix of `claimed` and of the cut the call carries once it has flipped.
    `recs`: every record has `c0 ≤ cut ≤ c1 ≤ claimed` as prefixes, and its value is the rendering of a snapshot
    stored with that cut. -/
structure CutInv (s : St) : Prop where
  thr : ∀ th ∈ s.ths, ∀ pc, th.pc = some pc → pc.c0 <+: s.core.claimed ∧
    ∀ S, pc.task.bind cutOf = some S → pc.c0 <+: S
  recs : ∀ r ∈ s.cuts, r.c0 <+: r.cut ∧ r.cut <+: r.c1 ∧ r.c1 <+: s.core.claimed ∧
    ∃ snap, (snap, r.cut) ∈ s.core.snaps ∧ r.rv = showSnap s.bounds.length snap.count snap.cell

theorem cutInv_init (bounds prog) : CutInv (init bounds prog) := by
  refine ⟨?_, ?_⟩
  · intro th hth pc hpc
    obtain ⟨t, ht⟩ := List.getElem?_of_mem hth
    rw [(RT.init_thread ht).2.2.1] at hpc; cases hpc
  · intro r hr; simp [init] at hr

theorem cutInv_step {s s' : St} {it : Item} (O : Ord (abs s)) (I : CutInv s) (h : item s it = .ok s') :
    CutInv s' := by
  rcases item_cases h with ⟨e, th, pc, c', pc', rv, cuts', th', tg, hth, hpc, hacc, rfl, hth', _⟩ |
      ⟨t, th, th', hth, rfl, hth'⟩
  · obtain ⟨hc0, hmono, hcut, hg⟩ := hacc.cut
    have hold := I.thr th (List.mem_of_getElem? hth) pc hpc
    refine ⟨?_, ?_⟩
    · intro x hx pcx hpcx
      rcases List.mem_or_eq_of_mem_set hx with hx | rfl
      · exact ⟨(I.thr x hx pcx hpcx).1.trans hmono, (I.thr x hx pcx hpcx).2⟩
      · rcases hth' with ⟨_, rfl⟩ | ⟨v, _, _, rfl⟩
        · cases hpcx
          refine ⟨hc0 ▸ hold.1.trans hmono, fun S hS => hc0 ▸ ?_⟩
          rcases hcut S hS with h | rfl
          · exact hold.2 S h
          · exact hold.1
        · cases hpcx
    · have hkeep : ∀ r ∈ s.cuts, s.core.snaps ⊆ c'.snaps → r.c0 <+: r.cut ∧ r.cut <+: r.c1 ∧ r.c1 <+: c'.claimed ∧
          ∃ snap, (snap, r.cut) ∈ c'.snaps ∧ r.rv = showSnap s.bounds.length snap.count snap.cell := by
        intro r hr' hsn
        obtain ⟨h0, h1, h2, snap, hm, hv⟩ := I.recs r hr'
        exact ⟨h0, h1, h2.trans hmono, snap, hsn hm, hv⟩
      intro r hr'
      rcases hg with ⟨rfl, h2⟩ | ⟨S, ov, taken, hS, rfl, h2⟩
      · exact hkeep r hr' (h2 ▸ List.Subset.refl _)
      · rcases List.mem_append.mp hr' with hr' | hr'
        · exact hkeep r hr' (h2 ▸ List.subset_append_left _ _)
        · -- the new record: c0 ≤ S by the thread invariant, S ≤ claimed by `Hp.Ord`
          obtain rfl := List.mem_singleton.mp hr'
          obtain ⟨t, htk, hct⟩ := Option.bind_eq_some_iff.1 hS
          have := O.taskPre t (List.mem_filterMap.2 ⟨th, List.mem_of_getElem? hth, by simp [taskOf, hpc, htk]⟩) S hct
          exact ⟨hold.2 S hS, this.1, hmono, ⟨ov, taken⟩, by rw [h2]; simp, rfl⟩
  · refine ⟨?_, I.recs⟩
    intro x hx pcx hpcx
    rcases List.mem_or_eq_of_mem_set hx with hx | rfl
    · exact I.thr x hx pcx hpcx
    · rcases hth' with ⟨h1, _, rfl | ⟨pc, rfl, hplan⟩⟩ | ⟨rv, _, rfl⟩
      · exact I.thr th (List.mem_of_getElem? hth) pcx hpcx
      · cases hpcx
        -- a call starts without a cut, its `c0` is empty or (`collect`) `claimed`
        rcases planCall_shape hplan with ⟨ht, _, _, h0⟩ | ⟨ht, h0 | h0⟩ | ⟨ht, h0⟩ <;> rw [ht, h0] <;>
          first
          | exact ⟨List.nil_prefix, fun S hS => by cases hS⟩
          | exact ⟨List.prefix_refl _, fun S hS => by cases hS⟩
      · exact I.thr th (List.mem_of_getElem? hth) pcx hpcx

theorem cutInv_reach {bounds prog s} (h : MReach bounds prog s) : CutInv s := by
  induction h with
  | init => exact cutInv_init _ _
  | step hr hs ih => exact cutInv_step (ord_reach (mreach_reach hr)) ih hs

/-- the thread can still perform the claim step of the call with its current index: it is between
    calls (the next call has index `idx`), or its open call has not claimed yet -/
def CanClaim (th : Th Pc) : Prop :=
  (th.pc = none ∧ th.retv = none) ∨ ∃ pc o, th.pc = some pc ∧ pc.task = some (.obsStart o)

/-- after an event the thread has its index; if it can still claim, the event was a stutter of the claim written
    as a loop: it could claim before and nothing has been claimed -/
theorem Accepts.canClaim {k : Nat} {c : Hp.St} {cuts : Cuts} {pc : Pc} {c' : Hp.St} {pc' : Pc} {rv : Option String}
    {cuts' : Cuts} (h : Accepts k c cuts pc ((c', pc', rv), cuts')) {th th' : Th Pc} (hpc : th.pc = some pc)
    (hth' : (rv = none ∧ th' = { th with pc := some pc' }) ∨
      ∃ v, rv = some v ∧ pc'.task = none ∧ th' = { th with pc := none, retv := some v }) :
    th'.idx = th.idx ∧ th'.ops = th.ops ∧ (CanClaim th' → CanClaim th ∧ c'.claimed = c.claimed) := by
  rcases hth' with ⟨_, rfl⟩ | ⟨v, _, _, rfl⟩
  · refine ⟨rfl, rfl, ?_⟩
    rintro (⟨h1, _⟩ | ⟨pcx, o, h1, h2⟩)
    · cases h1
    · cases h1
      obtain ⟨hsame, hcl⟩ := h.obsStart o h2
      exact ⟨.inr ⟨pc, o, hpc, hsame ▸ h2⟩, hcl⟩
  · refine ⟨rfl, rfl, ?_⟩
    rintro (⟨_, h1⟩ | ⟨pcx, o, h1, _⟩) <;> cases h1

/-- the invariant of the tag list: it is parallel to `claimed`; the tags of one thread have strictly
    increasing call indices; every tag belongs to an existing thread, its call index is at most that
    thread's current index, and strictly below it while the thread can still claim in the call with
    the current index (i.e. unless the open call has already claimed) -/
structure TagInv (s : St) : Prop where
  len : s.tags.length = s.core.claimed.length
  sorted : s.tags.Pairwise (fun a b => a.1 = b.1 → a.2 < b.2)
  bound : ∀ p ∈ s.tags, ∃ th, s.ths[p.1]? = some th ∧ p.2 ≤ th.idx ∧ (CanClaim th → p.2 < th.idx)

theorem tagInv_init (bounds prog) : TagInv (init bounds prog) := by
  refine ⟨rfl, ?_, ?_⟩
  · simp [init]
  · intro p hp; simp [init] at hp

theorem tagInv_step {s s' : St} {it : Item} (I : TagInv s) (h : item s it = .ok s') : TagInv s' := by
  rcases item_cases h with ⟨e, th, pc, c', pc', rv, cuts', th', tg, hth, hpc, hacc, rfl, hth', htg⟩ |
      ⟨t, th, th', hth, rfl, hcase⟩
  · obtain ⟨hidx, _, hnc⟩ := hacc.canClaim hpc hth'
    -- the old tags: only the thread that moved has to be looked at (`RT.log_set`)
    have hold := RT.log_set (R := fun i y => i ≤ y.idx ∧ (CanClaim y → i < y.idx)) I.bound hth (th' := th')
      fun i hi => ⟨by omega, fun hc => by have := hi.2 (hnc hc).1; omega⟩
    rcases htg with ⟨hcl, rfl⟩ | ⟨o, ho, hcl, rfl⟩
    · exact ⟨I.len.trans (congrArg _ hcl.symm), I.sorted, hold⟩
    · -- the claim step: one more tag, above all earlier tags of this thread
      refine ⟨?_, ?_, ?_⟩
      · show (s.tags ++ [(e.tid, th.idx)]).length = c'.claimed.length
        rw [hcl, List.length_append, List.length_append, I.len]; rfl
      · show (s.tags ++ [(e.tid, th.idx)]).Pairwise _
        rw [List.pairwise_append]
        refine ⟨I.sorted, by simp, ?_⟩
        intro a ha b hb hab
        obtain rfl := List.mem_singleton.mp hb
        obtain ⟨x, hx, _, h2⟩ := I.bound a ha
        rw [hab, hth] at hx; cases hx
        exact h2 (.inr ⟨pc, o, hpc, ho⟩)
      · intro p hp
        rcases List.mem_append.mp hp with hp | hp
        · exact hold p hp
        · obtain rfl := List.mem_singleton.mp hp
          refine ⟨th', List.getElem?_set_self (lt_of_getElem? hth), by simp only; omega, fun hc => ?_⟩
          have := (hnc hc).2
          rw [this] at hcl; simp at hcl
  · -- a mark: the thread could claim before and keeps its index, or its index advances
    refine ⟨I.len, I.sorted, RT.log_set (R := fun i y => i ≤ y.idx ∧ (CanClaim y → i < y.idx)) I.bound hth
      fun i hi => ?_⟩
    rcases hcase with ⟨h1, h2, rfl | ⟨pc, rfl, _⟩⟩ | ⟨rv, _, rfl⟩
    · exact ⟨hi.1, fun _ => hi.2 (.inl ⟨h1, h2⟩)⟩
    · exact ⟨hi.1, fun _ => hi.2 (.inl ⟨h1, h2⟩)⟩
    · exact ⟨by simp only; omega, fun _ => by simp only; omega⟩

theorem tagInv_reach {bounds prog s} (h : MReach bounds prog s) : TagInv s := by
  induction h with
  | init => exact tagInv_init _ _
  | step _ hs ih => exact tagInv_step ih hs

/-- every claim recorded so far was made by an existing thread in a call it has reached, and a thread that can still
    claim in its current call has not claimed in it -/
theorem tags_bound {bounds prog s} (h : MReach bounds prog s) :
    ∀ p ∈ s.tags, ∃ th, s.ths[p.1]? = some th ∧ p.2 ≤ th.idx ∧ (CanClaim th → p.2 < th.idx) :=
  (tagInv_reach h).bound

theorem cut_prefix {bounds prog s} (h : MReach bounds prog s) : ∀ r ∈ s.cuts, r.cut <+: s.core.claimed :=
  fun r hr => let ⟨_, h1, h2, _⟩ := (cutInv_reach h).recs r hr; h1.trans h2

theorem tags_call_order {bounds prog s} (h : MReach bounds prog s) {i j t a b : Nat}
    (hi : s.tags[i]? = some (t, a)) (hj : s.tags[j]? = some (t, b)) (hab : a < b) : i < j := by
  obtain ⟨hi', hie⟩ := List.getElem?_eq_some_iff.mp hi
  obtain ⟨hj', hje⟩ := List.getElem?_eq_some_iff.mp hj
  rcases Nat.lt_trichotomy i j with hij | rfl | hji
  · exact hij
  · rw [hie] at hje; cases hje; omega
  · have := List.pairwise_iff_getElem.mp (tagInv_reach h).sorted j i hj' hi' hji (by rw [hie, hje])
    rw [hie, hje] at this
    omega

/-- the position half of `C02.cut_per_thread_prefix` (`tags_call_order`); that the cut IS the first `r.cut.length`
    positions of the claim order is `cut_prefix` -/
theorem cut_per_thread_prefix {bounds prog s} (h : MReach bounds prog s) :
    ∀ r ∈ s.cuts, ∀ i j t a b, s.tags[i]? = some (t, a) → s.tags[j]? = some (t, b) → a < b →
      j < r.cut.length → i < r.cut.length :=
  fun _ _ _ _ _ _ _ hi hj hab hjr => Nat.lt_trans (tags_call_order h hi hj hab) hjr

/-- the threads run the program; a call is either stepping or complete; an open observer call carries the
    observation its operation string denotes; and so does every tagged position of the claim order -/
structure TagObsInv (bounds : List UInt64) (prog : List (List String)) (s : St) : Prop where
  thr : ∀ (t : Nat) (th : Th Pc), s.ths[t]? = some th → prog[t]? = some th.ops ∧ (th.pc = none ∨ th.retv = none) ∧
    ∀ (pc : Pc) (o : Obs), th.pc = some pc → obsOfPc pc = some o →
      o = obsOfVals bounds (callVals (th.ops.getD th.idx ""))
  tagObs : ∀ (i t k : Nat), s.tags[i]? = some (t, k) → ∃ ops : List String, prog[t]? = some ops ∧
    s.core.claimed[i]? = some (obsOfVals bounds (callVals (ops.getD k "")))

theorem tagObsInv_step {bounds prog} {s s' : St} {it : Item} (hb : s.bounds = bounds) (T : TagInv s)
    (I : TagObsInv bounds prog s) (h : item s it = .ok s') : TagObsInv bounds prog s' := by
  rcases item_cases h with ⟨e, th, pc, c', pc', rv, cuts', th', tg, hth, hpc, hacc, rfl, hth', htg⟩ |
      ⟨t, th, th', hth, rfl, hcase⟩
  · obtain ⟨hidx, hops, _⟩ := hacc.canClaim hpc hth'
    obtain ⟨ho, hx, hs⟩ := I.thr _ _ hth
    refine ⟨forall_set (fun t x _ => I.thr t x) ⟨hops ▸ ho, ?_, ?_⟩, ?_⟩
    · rcases hth' with ⟨_, rfl⟩ | ⟨v, _, _, rfl⟩
      · exact .inr (hx.resolve_left (by rw [hpc]; simp))
      · exact .inl rfl
    · intro pcx o h1 h2
      rcases hth' with ⟨_, rfl⟩ | ⟨v, _, _, rfl⟩
      · cases h1; exact hs pc o hpc (hacc.obs o h2)
      · cases h1
    · intro i t k hi
      rcases htg with ⟨hcl, rfl⟩ | ⟨o, ho', hcl, rfl⟩
      · exact hcl ▸ I.tagObs i t k hi
      · -- the new tag stands where the new observation stands
        rw [hcl]
        rcases of_getElem?_concat_eq_some (l := s.tags) hi with hi' | ⟨rfl, hx⟩
        · obtain ⟨ops, h1, h2⟩ := I.tagObs i t k hi'
          exact ⟨ops, h1, getElem?_concat_of_some h2⟩
        · cases hx
          refine ⟨th.ops, ho, ?_⟩
          rw [T.len, List.getElem?_concat_length]
          exact congrArg some (hs pc o hpc (by rw [obsOfPc, ho']; rfl))
  · obtain ⟨ho, hx, hs⟩ := I.thr _ _ hth
    refine ⟨forall_set (fun t x _ => I.thr t x) ?_, I.tagObs⟩
    rcases hcase with ⟨h1, h2, rfl | ⟨pc, rfl, hplan⟩⟩ | ⟨rv, hrv, rfl⟩
    · exact ⟨ho, .inl h1, fun pcx o h => by rw [h1] at h; cases h⟩
    · -- a call that opens as an observer carries the observation of its operation string (`planCall_shape`)
      refine ⟨ho, .inr h2, fun pcx o h h' => ?_⟩
      cases h
      unfold obsOfPc at h'
      rcases planCall_shape hplan with ⟨ht, _⟩ | ⟨ht, _⟩ | ⟨ht, _⟩ <;> rw [ht] at h' <;> cases h'
      rw [hb]
    · -- a return mark: the call was complete, so none is open
      refine ⟨ho, .inr rfl, fun pcx o h => ?_⟩
      rcases hx with h4 | h4
      · rw [h4] at h; cases h
      · rw [h4] at hrv; cases hrv

theorem tagObsInv_init (bounds prog) : TagObsInv bounds prog (init bounds prog) :=
  ⟨fun t th h => ⟨(RT.init_thread h).1, .inl (RT.init_thread h).2.2.1,
    fun pc o hpc => by rw [(RT.init_thread h).2.2.1] at hpc; cases hpc⟩, fun i t k h => by simp [init] at h⟩

theorem tagObsInv_reach {bounds prog s} (h : MReach bounds prog s) : TagObsInv bounds prog s := by
  induction h with
  | init => exact tagObsInv_init _ _
  | step hr hs ih => exact tagObsInv_step (mreach_bounds hr) (tagInv_reach hr) ih hs

/-- every observation the machine has claimed, and the observation carried by every open
    `obs` / `flush` call, is `obsOfVals bounds vals` for a list of values -/
structure ObsInv (bounds : List UInt64) (s : St) : Prop where
  claimed : ∀ o ∈ s.core.claimed, ∃ vals, o = obsOfVals bounds vals
  thr : ∀ th ∈ s.ths, ∀ pc, th.pc = some pc → ∀ o, obsOfPc pc = some o → ∃ vals, o = obsOfVals bounds vals

/-- a corollary of what the tags mean: every claimed position carries a tag, every open observer call the
    observation of its operation string -/
theorem obsInv_reach {bounds prog s} (h : MReach bounds prog s) : ObsInv bounds s := by
  have I := tagObsInv_reach h
  refine ⟨fun o ho => ?_, fun th hth pc hpc o ho => ?_⟩
  · obtain ⟨i, hi, rfl⟩ := List.mem_iff_getElem.mp ho
    have hit : i < s.tags.length := (tagInv_reach h).len ▸ hi
    obtain ⟨ops, _, h2⟩ := I.tagObs i _ _ (List.getElem?_eq_getElem hit)
    rw [List.getElem?_eq_getElem hi] at h2
    exact ⟨_, Option.some.inj h2⟩
  · obtain ⟨t, ht, rfl⟩ := List.mem_iff_getElem.mp hth
    exact ⟨_, (I.thr t _ (List.getElem?_eq_getElem ht)).2.2 pc o hpc ho⟩

theorem exists_valss {bounds : List UInt64} : ∀ (l : List Obs), (∀ o ∈ l, ∃ vals, o = obsOfVals bounds vals) →
    ∃ valss : List (List Int), l = valss.map (obsOfVals bounds)
  | [], _ => ⟨[], rfl⟩
  | o :: r, h => by
    obtain ⟨vals, hv⟩ := h o (by simp)
    obtain ⟨valss, hr⟩ := exists_valss r (fun x hx => h x (by simp [hx]))
    exact ⟨vals :: valss, by simp [hv, hr]⟩

theorem cut_valss {bounds prog s} (h : MReach bounds prog s) :
    ∀ r ∈ s.cuts, ∃ valss : List (List Int), r.cut = valss.map (obsOfVals bounds) :=
  fun r hr => exists_valss r.cut fun o ho => (obsInv_reach h).claimed o ((cut_prefix h r hr).subset ho)

end Prom.HM
