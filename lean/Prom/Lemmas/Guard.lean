import Prom.Model.Conc
/-
The step functions of the replay machines are decision trees of `guard`s, `if`s and `match`es whose leaves are
`.ok <new state>` or `.error <message>`. A fact about every ACCEPTED step is proved by pushing it to the leaves:
`OkAll P r` says that `P` holds of the result if `r` is `.ok`. A lemma `f x = .ok r → P r` is entered by
`revert r h; show OkAll _ _; unfold f`; `simp only [okAll_ok, okAll_error, okAll_guard, okAll_ite]` then moves `OkAll`
through the tree in one pass, and a `match` on data is taken apart by `cases` / `split` where it is met.
-/
namespace Prom.Conc

def OkAll {α} (P : α → Prop) (r : Except String α) : Prop := ∀ a, r = .ok a → P a

theorem OkAll.imp {α} {P Q : α → Prop} {r : Except String α} (h : ∀ a, P a → Q a) (hr : OkAll P r) : OkAll Q r :=
  fun a e => h a (hr a e)

theorem okAll_ok {α} {P : α → Prop} {a : α} : OkAll P (.ok a) ↔ P a :=
  ⟨fun h => h a rfl, fun h b e => by cases e; exact h⟩

theorem okAll_error {α} {P : α → Prop} {m : String} : OkAll P (.error m) ↔ True :=
  ⟨fun _ => trivial, fun _ b e => by cases e⟩

theorem okAll_guard {α} {P : α → Prop} {c : Bool} {m : String} {k : Except String α} :
    OkAll P (guard c m k) ↔ (c = true → OkAll P k) := by
  unfold guard; cases c <;> simp [OkAll]

theorem okAll_ite {α} {P : α → Prop} {c : Prop} [Decidable c] {x y : Except String α} :
    OkAll P (if c then x else y) ↔ (c → OkAll P x) ∧ (¬ c → OkAll P y) := by
  by_cases h : c <;> simp [h]

theorem beq_of_and {α} [BEq α] [LawfulBEq α] {a b : α} {c : Bool} (h : (a == b && c) = true) : a = b :=
  eq_of_beq ((Bool.and_eq_true _ _).mp h).1

theorem ordGe_self (o : String) : ordGe o o = true := by simp [ordGe]
theorem ordGe_relaxed (o : String) : ordGe o "Relaxed" = true := by simp [ordGe]

end Prom.Conc
