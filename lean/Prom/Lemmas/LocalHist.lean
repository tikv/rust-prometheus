import Prom.Lemmas.Histogram
import Prom.Model.Local
/- The local (unsync) histogram (C08, C12): it buckets by the same first-match rule as the shared one
   (`lh_observeAll`, `hist_observeAll`: both fold `bucketStep`), a flush (`Hist.absorb`) adds its bucket counts
   position-wise (`addCounts_observed`, `absorb_of_ne`, `absorb_count`), and what observing and flushing on a
   handle of the world `HW` do (`world_lobs_all`, `world_lflush_shared`: for C08's world form of the same rule;
   the invariant of `HW` is in LocalWorlds). -/
namespace Prom.C08

theorem addCounts_eq (hc lc : List Nat) : addCounts hc lc = hc.mapIdx fun c a => a + lc[c]?.getD 0 := by
  induction hc generalizing lc with
  | nil => cases lc <;> rfl
  | cons a r ih =>
    cases lc with
    | nil => exact (List.mapIdx_eq_iff.2 fun c => show (a :: r)[c]? = _ by simp).symm
    | cons b s => rw [List.mapIdx_cons]; exact congrArg (_ :: ·) (ih s)

/-- flushing a fresh local histogram that observed `vs` leaves the buckets that observing `vs` directly leaves -/
theorem addCounts_observed (bounds : List UInt64) (hc : List Nat) (vs : List UInt64) :
    addCounts hc (vs.foldl (bucketStep bounds) (List.replicate bounds.length 0)) = vs.foldl (bucketStep bounds) hc := by
  rw [addCounts_eq, foldl_bucketStep_eq bounds vs hc]
  exact List.mapIdx_eq_mapIdx_iff.2 fun c _ => congrArg _ (observed_getD bounds vs c)

theorem absorb_of_ne (add : UInt64 → UInt64 → UInt64) (h : Hist) {l : LH} (hc : l.count ≠ 0) :
    h.absorb add l = { h with counts := addCounts h.counts l.counts, count := h.count + l.count,
                              sum := add h.sum l.sum } := by
  simp [Hist.absorb, hc]

theorem absorb_count (add) (h : Hist) (l : LH) : (h.absorb add l).count = h.count + l.count := by
  unfold Hist.absorb
  split
  · next hc =>
    have : l.count = 0 := by simpa using hc
    omega
  · rfl

theorem lh_observeAll (add : UInt64 → UInt64 → UInt64) (bounds : List UInt64) (vs : List UInt64) : ∀ l : LH,
    vs.foldl (LH.observe add bounds) l =
      ⟨vs.foldl (bucketStep bounds) l.counts, l.count + vs.length, vs.foldl add l.sum⟩ := by
  induction vs with
  | nil => intro l; rfl
  | cons v r ih =>
    intro l
    rw [List.foldl_cons, ih]
    -- counts and sum agree by unfolding: the `match` in `LH.observe` is the body of `bucketStep`
    exact congrArg (LH.mk _ · _) (Nat.add_right_comm l.count 1 r.length)

theorem hist_observeAll (add : UInt64 → UInt64 → UInt64) (vs : List UInt64) : ∀ h : Hist,
    h.observeAll add vs = { h with counts := vs.foldl (bucketStep h.bounds) h.counts, count := h.count + vs.length,
                                   sum := vs.foldl add h.sum } := by
  induction vs with
  | nil => intro h; rfl
  | cons v r ih =>
    intro h
    rw [Hist.observeAll, List.foldl_cons, ← Hist.observeAll, ih]
    -- likewise the `match` in `Hist.observe`
    exact congrArg (Hist.mk _ _ · _) (Nat.add_right_comm h.count 1 r.length)

theorem world_lobs_all (add : UInt64 → UInt64 → UInt64) (k : Nat) (vs : List UInt64) :
    ∀ (w : HW) (l : LH), w.locals[k]? = some (some l) →
      ((vs.map (HOp.lobs k)).foldl (HW.step add) w).shared = w.shared ∧
      ((vs.map (HOp.lobs k)).foldl (HW.step add) w).locals[k]? =
        some (some (vs.foldl (LH.observe add w.shared.bounds) l)) := by
  induction vs with
  | nil => intro w l hl; exact ⟨rfl, hl⟩
  | cons v r ih =>
    intro w l hl
    have hstep : w.step add (.lobs k v) =
        { w with locals := w.locals.set k (some (l.observe add w.shared.bounds v)), totalObs := w.totalObs + 1 } := by
      simp only [HW.step, hl]
    rw [List.map_cons, List.foldl_cons, hstep]
    exact ih _ _ (List.getElem?_set_self (List.getElem?_eq_some_iff.1 hl).1)

theorem world_lflush_shared (add : UInt64 → UInt64 → UInt64) (w : HW) (k : Nat) (l : LH)
    (hl : w.locals[k]? = some (some l)) :
    (w.step add (.lflush k)).shared = w.shared.absorb add l := by
  simp only [HW.step, hl]

end Prom.C08
