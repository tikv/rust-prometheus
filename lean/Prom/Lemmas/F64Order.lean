import Prom.Base.F64
/- Order laws of the bit-level IEEE order on `UInt64` patterns (`Base/F64.lean`; no `Float`). -/
namespace Prom

theorem f64Le_iff (a b : UInt64) :
    f64Le a b = true ↔ f64IsNaN a = false ∧ f64IsNaN b = false ∧ f64Key a ≤ f64Key b := by
  simp [f64Le, Bool.and_eq_true, and_assoc]

theorem f64Lt_iff (a b : UInt64) :
    f64Lt a b = true ↔ f64IsNaN a = false ∧ f64IsNaN b = false ∧ f64Key a < f64Key b := by
  simp [f64Lt, Bool.and_eq_true, and_assoc]

theorem f64Le_trans {a b c : UInt64} (h1 : f64Le a b = true) (h2 : f64Le b c = true) :
    f64Le a c = true := by
  simp only [f64Le_iff] at *
  exact ⟨h1.1, h2.2.1, by omega⟩

theorem f64Le_of_le_of_lt {a b c : UInt64} (h1 : f64Le a b = true) (h2 : f64Lt b c = true) :
    f64Le a c = true := by
  simp only [f64Le_iff, f64Lt_iff] at *
  exact ⟨h1.1, h2.2.1, by omega⟩

theorem f64Lt_trans {a b c : UInt64} (h1 : f64Lt a b = true) (h2 : f64Lt b c = true) :
    f64Lt a c = true := by
  simp only [f64Lt_iff] at *
  exact ⟨h1.1, h2.2.1, by omega⟩

theorem f64Le_refl {a : UInt64} (h : f64IsNaN a = false) : f64Le a a = true := by
  simp only [f64Le_iff]; exact ⟨h, h, by omega⟩

theorem f64Le_total {a b : UInt64} (ha : f64IsNaN a = false) (hb : f64IsNaN b = false) :
    f64Le a b = true ∨ f64Le b a = true := by
  simp only [f64Le_iff]
  by_cases h : f64Key a ≤ f64Key b
  · exact Or.inl ⟨ha, hb, h⟩
  · exact Or.inr ⟨hb, ha, by omega⟩

theorem f64Le_nan_left {a : UInt64} (b : UInt64) (h : f64IsNaN a = true) : f64Le a b = false := by
  simp [f64Le, h]

theorem f64Le_nan_right (a : UInt64) {b : UInt64} (h : f64IsNaN b = true) : f64Le a b = false := by
  simp [f64Le, h]

theorem f64Le_false_iff {a b : UInt64} (ha : f64IsNaN a = false) (hb : f64IsNaN b = false) :
    f64Le a b = false ↔ f64Key b < f64Key a := by
  simp [f64Le, ha, hb]

theorem f64_not_ge_iff_lt {a b : UInt64} (ha : f64IsNaN a = false) (hb : f64IsNaN b = false) :
    f64Ge a b = false ↔ f64Lt a b = true := by
  unfold f64Ge
  rw [f64Le_false_iff hb ha, f64Lt_iff]
  constructor
  · intro h; exact ⟨ha, hb, h⟩
  · intro h; exact h.2.2

theorem f64Le_zero_iff (x : UInt64) : f64Le x f64Zero = true ↔ f64IsNaN x = false ∧ f64Key x ≤ 0 := by
  have hz : f64IsNaN f64Zero = false := by decide
  have hk : f64Key f64Zero = 0 := by decide
  simp only [f64Le, hz, hk, Bool.not_false, Bool.and_true, Bool.and_eq_true, Bool.not_eq_true',
    decide_eq_true_eq]

theorem f64Lt_not_le {a b : UInt64} (h : f64Lt a b = true) : f64Le b a = false := by
  rw [f64Lt_iff] at h
  rw [f64Le_false_iff h.2.1 h.1]; exact h.2.2

/-- `-0.0` and `+0.0` compare equal -/
theorem f64_zero_eq : f64Le 0x8000000000000000 0 = true ∧ f64Le 0 0x8000000000000000 = true := by
  decide

theorem f64PosInf_not_nan : f64IsNaN f64PosInf = false := by decide

end Prom
