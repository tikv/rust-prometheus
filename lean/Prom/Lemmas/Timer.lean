import Prom.Model.Timer
/- Timers (C18): what holds of every timer of a reachable world (`TimerOk`), the count equation (`TInv`),
   and that a stop / drop through `TW.withTimer` keeps both. -/
namespace Prom.C18

/-- live timers never hold buffered observations and have not observed yet; ended timers hold none -/
def TimerOk (t : Timer) : Prop := t.buf = 0 ∧ (t.alive = true → t.observed = false)

def TInv (w : TW) : Prop := w.shared + w.parent = w.ended + w.closures + w.direct ∧ ∀ t ∈ w.timers, TimerOk t

theorem withTimer_parent (w : TW) (i : Nat) (f : Timer → Timer × Nat) (e : Bool) :
    (w.withTimer i f e).parent = w.parent := by
  unfold TW.withTimer
  cases w.timers[i]? with
  | none => rfl
  | some t => simp only []; split <;> rfl

/-- `hf` has the shape of the per-timer theorems of C18 (`record_contributes_one`, …), so that they apply as they
    stand; that the timer has ended is not needed here -/
theorem withTimer_inv {w : TW} (h : TInv w) (i : Nat) (f : Timer → Timer × Nat) (e : Bool)
    (hf : ∀ t, TimerOk t → t.alive = true →
      (f t).2 = (if e then 1 else 0) ∧ TimerOk (f t).1 ∧ (f t).1.alive = false) :
    TInv (w.withTimer i f e) := by
  unfold TW.withTimer
  split
  · next t hl =>
    split
    · next ha =>
      obtain ⟨hd, hok, _⟩ := hf t (h.2 t (List.mem_of_getElem? hl)) ha
      refine ⟨by have := h.1; simp only [hd]; omega, fun t' hm => ?_⟩
      rcases List.mem_or_eq_of_mem_set hm with hm | rfl
      · exact h.2 t' hm
      · exact hok
    · exact h
  · exact h

end Prom.C18
