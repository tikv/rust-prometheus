import Prom.Base.Bytes
/- Insertion sort by a total preorder (`insertBy`, `stableSortBy`): permutation, sortedness, uniqueness of the
   sorted permutation; the byte-string order (`strLe`, `strLt`); strictly sorted lists of strings are determined by
   their members (`strict_sorted_ext`). -/
namespace Prom
variable {α : Type}

theorem insertBy_perm (le : α → α → Bool) (a : α) (l : List α) : (insertBy le a l).Perm (a :: l) := by
  fun_induction insertBy le a l with
  | case1 => exact List.Perm.refl _
  | case2 b r _ ih => exact (List.Perm.cons b ih).trans (List.Perm.swap a b r)
  | case3 b r _ => exact List.Perm.refl _

theorem mem_insertBy (le : α → α → Bool) (a x : α) (l : List α) : x ∈ insertBy le a l ↔ x = a ∨ x ∈ l := by
  rw [(insertBy_perm le a l).mem_iff]; simp

theorem foldl_insertBy_perm (le : α → α → Bool) (l : List α) : ∀ acc,
    (l.foldl (fun acc a => insertBy le a acc) acc).Perm (acc ++ l) := by
  induction l with
  | nil => intro acc; simp
  | cons a r ih =>
    intro acc
    refine (ih _).trans ?_
    exact (List.Perm.append_right r (insertBy_perm le a acc)).trans (List.perm_middle.symm)

theorem stableSortBy_perm (le : α → α → Bool) (l : List α) : (stableSortBy le l).Perm l := by
  simpa [stableSortBy] using foldl_insertBy_perm le l []

theorem insertBy_pairwise {le : α → α → Bool}
    (trans : ∀ a b c, le a b = true → le b c = true → le a c = true)
    (total : ∀ a b, le a b = true ∨ le b a = true)
    (a : α) {l : List α} (h : l.Pairwise (fun x y => le x y = true)) :
    (insertBy le a l).Pairwise (fun x y => le x y = true) := by
  fun_induction insertBy le a l with
  | case1 => simp
  | case2 b r hba ih =>
    obtain ⟨hb, hr⟩ := List.pairwise_cons.1 h
    refine List.pairwise_cons.2 ⟨fun x hx => ?_, ih hr⟩
    rcases (mem_insertBy le a x r).1 hx with rfl | hx
    · exact hba
    · exact hb x hx
  | case3 b r hba =>
    have hab : le a b = true := (total a b).resolve_right hba
    refine List.pairwise_cons.2 ⟨fun x hx => ?_, h⟩
    rcases List.mem_cons.1 hx with rfl | hx
    · exact hab
    · exact trans _ _ _ hab ((List.pairwise_cons.1 h).1 x hx)

theorem stableSortBy_pairwise {le : α → α → Bool}
    (trans : ∀ a b c, le a b = true → le b c = true → le a c = true)
    (total : ∀ a b, le a b = true ∨ le b a = true) (l : List α) :
    (stableSortBy le l).Pairwise (fun x y => le x y = true) :=
  List.foldlRecOn l _ List.Pairwise.nil fun _ h a _ => insertBy_pairwise trans total a h

theorem stableSortBy_perm_eq {le : α → α → Bool}
    (trans : ∀ a b c, le a b = true → le b c = true → le a c = true)
    (total : ∀ a b, le a b = true ∨ le b a = true)
    {l₁ l₂ : List α} (hp : l₁.Perm l₂)
    (anti : ∀ a b, a ∈ l₁ → b ∈ l₁ → le a b = true → le b a = true → a = b) :
    stableSortBy le l₁ = stableSortBy le l₂ := by
  apply List.Perm.eq_of_pairwise (le := fun x y => le x y = true)
  · intro a b ha hb h1 h2
    have ha' : a ∈ l₁ := (stableSortBy_perm le l₁).subset ha
    have hb' : b ∈ l₁ := hp.symm.subset ((stableSortBy_perm le l₂).subset hb)
    exact anti a b ha' hb' h1 h2
  · exact stableSortBy_pairwise trans total l₁
  · exact stableSortBy_pairwise trans total l₂
  · exact (stableSortBy_perm le l₁).trans (hp.trans (stableSortBy_perm le l₂).symm)

theorem insertBy_of_all_le {le : α → α → Bool} (a : α) (l : List α) (h : ∀ x ∈ l, le x a = true) :
    insertBy le a l = l ++ [a] := by
  induction l with
  | nil => rfl
  | cons b r ih =>
    rw [List.forall_mem_cons] at h
    rw [insertBy, if_pos h.1, ih h.2, List.cons_append]

theorem strLe_iff (a b : Str) : strLe a b = true ↔ a ≤ b := by simp [strLe]

theorem strLe_trans (a b c : Str) (h1 : strLe a b = true) (h2 : strLe b c = true) : strLe a c = true := by
  rw [strLe_iff] at *; exact List.le_trans h1 h2

theorem strLe_total (a b : Str) : strLe a b = true ∨ strLe b a = true := by
  rw [strLe_iff, strLe_iff]; exact List.le_total a b

theorem strLe_antisymm (a b : Str) (h1 : strLe a b = true) (h2 : strLe b a = true) : a = b := by
  rw [strLe_iff] at *; exact Std.le_antisymm h1 h2

theorem strLe_refl (a : Str) : strLe a a = true :=
  (strLe_iff a a).2 (List.le_refl a)

theorem strLt_iff (a b : Str) : strLt a b = true ↔ a < b := by simp [strLt]

theorem strLe_of_lt {x y : Str} (h : x < y) : strLe x y = true :=
  (strLe_iff x y).2 (List.le_of_lt h)

theorem not_strLe_of_lt {x y : Str} (h : x < y) : strLe y x = false :=
  Bool.eq_false_iff.2 fun hs => List.not_lt.2 ((strLe_iff y x).1 hs) h

theorem nodup_of_lt {l : List Str} (h : l.Pairwise (· < ·)) : l.Nodup :=
  List.Pairwise.imp (S := (· ≠ ·)) (fun h e => List.lt_irrefl _ (e ▸ h)) h

theorem strict_sorted_ext : ∀ (l₁ l₂ : List Str), l₁.Pairwise (· < ·) → l₂.Pairwise (· < ·) → (∀ x, x ∈ l₁ ↔ x ∈ l₂) → l₁ = l₂ := by
  intro l₁ l₂ h1 h2 hm
  have hp : l₁.Perm l₂ := (List.perm_ext_iff_of_nodup (nodup_of_lt h1) (nodup_of_lt h2)).2 hm
  exact List.Perm.eq_of_pairwise (le := fun x y => x < y)
    (fun a b _ _ hab hba => absurd hba (List.lt_asymm hab)) h1 h2 hp

end Prom
