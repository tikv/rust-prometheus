import Prom.Model.HistMachine
import Prom.Lemmas.Guard
/-
What the pieces of the replay machine `Prom.HM` accept, in three parts. (1) Each piece analysed once: `casLoop_cases`,
`fetchAdd_cases`, `splitFirst_spec` / `splitFirst_eq_none_iff`, `pick_spec`, `skipTask_spec`, `okAll_plainR`; the
refinement (HistRefine) and the hand-off (HandoffHist) rest on these. (2) The equations under the accepted-freedom
theorems of Props/C02 (`fetchAdd_single` …, `evStep_colMove`, `colStep_*`). (3) Exhibits of what the machine accepts,
on which no proof rests: both loop idioms after a failed exchange, any order of an observation's updates, the skip.
-/
namespace Prom.HM
open Prom.Conc Hp

theorem plainR_ok {cuts : Cuts} {r : Except String Res} {x : Res} {cuts' : Cuts} :
    plainR cuts r = .ok (x, cuts') ↔ r = .ok x ∧ cuts' = cuts := by
  unfold plainR; split <;> simp_all [eq_comm]

theorem okAll_plainR {P : Res × Cuts → Prop} {cuts : Cuts} {r : Except String Res} :
    OkAll P (plainR cuts r) ↔ OkAll (fun x => P (x, cuts)) r := by
  cases r <;> simp [plainR, OkAll]

theorem casLoad_okAll {P : Res → Prop} {e : Ev} {c : Hp.St} {pc : Pc} {b : Bool} {x : Int}
    (h : e.k = "L" → parseLoc e.loc = .sum b → P (c, { pc with cur := some x, failed := false }, none)) :
    OkAll P (casLoad e c pc b x) := by
  unfold casLoad
  simp only [okAll_guard, okAll_ok, Bool.and_eq_true, beq_iff_eq]
  exact fun ⟨⟨⟨⟨hk, hl⟩, _⟩, _⟩, _⟩ => h hk hl

theorem casLoop_cases {e : Ev} {c : Hp.St} {pc : Pc} {b : Bool} {cell : Nat} {a : Int} {onOk r : Res}
    (h : casLoop e c pc b cell a onOk = .ok r) :
    parseLoc e.loc = .sum b ∧
    ((e.k = "L" ∧ r = (c, { pc with cur := some ((c.sh b).cell cell), failed := false }, none)) ∨
     (e.k = "C" ∧ e.ok = true ∧ r = onOk) ∨
     (e.k = "C" ∧ e.ok = false ∧ r = (c, { pc with cur := some ((c.sh b).cell cell), failed := true }, none) ∧
        e.res = f64OfInt ((c.sh b).cell cell))) := by
  revert r h
  show OkAll _ _
  unfold casLoop
  split
  · exact casLoad_okAll fun hk hl => ⟨hl, .inl ⟨hk, rfl⟩⟩
  · simp only [okAll_ite, okAll_guard, okAll_ok, Bool.and_eq_true, beq_iff_eq, Bool.not_eq_true]
    exact ⟨fun _ => casLoad_okAll fun hk hl => ⟨hl, .inl ⟨hk, rfl⟩⟩, fun _ ⟨⟨⟨⟨⟨⟨hk, hl⟩, _⟩, _⟩, _⟩, _⟩, _⟩ =>
      ⟨fun hok _ => ⟨hl, .inr (.inl ⟨hk, hok, trivial⟩)⟩, fun hok hr => ⟨hl, .inr (.inr ⟨hk, hok, trivial, hr.2⟩)⟩⟩⟩

/-- `onOk` with the loop state of the site cleared: the local `done` of `HM.fetchAdd`, which spells this body out (a
    model file imports no lemma file); the two agree by unfolding -/
def faDone (onOk : Res) : Res := (onOk.1, { onOk.2.1 with icur := none, ifailed := false }, onOk.2.2)

theorem faLoad_okAll {P : Res → Prop} {e : Ev} {c : Hp.St} {pc : Pc} {loc : Loc} {x : UInt64} {msg : String}
    (h : e.k = "L" → parseLoc e.loc = loc → P (c, { pc with icur := some x, ifailed := false }, none)) :
    OkAll P (faLoad e c pc loc x msg) := by
  unfold faLoad
  simp only [okAll_guard, okAll_ok, Bool.and_eq_true, beq_iff_eq]
  exact fun ⟨⟨⟨hk, hl⟩, _⟩, _⟩ => h hk hl

/-- what a `fetch_add` site accepts: a stutter of its loop (a load, a failed exchange) or THE step (the `fetch_add`
    or the successful exchange, with the site's ordering, reading the cell's pattern) -/
theorem fetchAdd_cases {e : Ev} {c : Hp.St} {pc : Pc} {loc : Loc} {ord : String} {a x : UInt64} {ok : Bool}
    {msg : String} {onOk r : Res} (h : fetchAdd e c pc loc ord a x ok msg onOk = .ok r) :
    ((∃ ic f, r = (c, { pc with icur := ic, ifailed := f }, none)) ∧ parseLoc e.loc = loc ∧
        (e.k = "L" ∨ (e.k = "C" ∧ e.ok = false))) ∨
    (r = faDone onOk ∧ ok = true ∧ parseLoc e.loc = loc ∧ ordGe e.ord ord = true ∧ e.res = x ∧
        (e.k = "A" ∨ (e.k = "C" ∧ e.ok = true))) := by
  revert r h
  show OkAll _ _
  unfold fetchAdd
  simp only [okAll_ite, okAll_guard, okAll_ok, Bool.and_eq_true, beq_iff_eq]
  refine ⟨fun hk ⟨⟨⟨⟨⟨hl, ho⟩, _⟩, hr⟩, hok⟩, _⟩ => .inr ⟨rfl, hok, hl, ho, hr, .inl hk⟩, fun _ => ?_⟩
  split
  · exact faLoad_okAll fun hk hl => .inl ⟨⟨_, _, rfl⟩, hl, .inl hk⟩
  · simp only [okAll_ite, okAll_guard, okAll_ok, Bool.and_eq_true, beq_iff_eq]
    exact ⟨fun _ => faLoad_okAll fun hk hl => .inl ⟨⟨_, _, rfl⟩, hl, .inl hk⟩, fun _ ⟨⟨⟨⟨hk, hl⟩, ho⟩, _⟩, _⟩ =>
      ⟨fun hs ⟨⟨hx, hr⟩, hok⟩ => .inr ⟨rfl, hok, hl, ho, by rw [hr, hx], .inr ⟨hk, hs⟩⟩,
       fun hs _ => .inl ⟨⟨_, _, rfl⟩, hl, .inr ⟨hk, by simpa using hs⟩⟩⟩⟩

theorem splitFirst_spec {α : Type} {f : α → Bool} {l l1 : List α} {q : α} {l2 : List α}
    (h : splitFirst f l = some (l1, q, l2)) : l = l1 ++ q :: l2 ∧ f q = true ∧ ∀ x ∈ l1, f x = false := by
  fun_induction splitFirst f l generalizing l1 with
  | case1 => cases h
  | case2 p l hp => cases h; exact ⟨rfl, hp, by simp⟩
  | case3 p l hp m1 q' m2 hm ih =>
    cases h
    obtain ⟨e1, e2, e3⟩ := ih hm
    exact ⟨by rw [e1]; rfl, e2, by simpa [hp] using e3⟩
  | case4 p l hp hm ih => cases h

theorem splitFirst_eq_none_iff {α : Type} {f : α → Bool} {l : List α} :
    splitFirst f l = none ↔ ∀ x ∈ l, f x = false := by
  fun_induction splitFirst f l with
  | case1 => simp
  | case2 p l hp => simp [hp]
  | case3 p l hp m1 q m2 hm ih => simp [hp, ← ih, hm]
  | case4 p l hp hm ih => simp [hp, ← ih, hm]

theorem splitFirst_of_first {α : Type} {f : α → Bool} : ∀ (l1 : List α) (q : α) (l2 : List α),
    (∀ x ∈ l1, f x = false) → f q = true → splitFirst f (l1 ++ q :: l2) = some (l1, q, l2)
  | [], q, l2, _, hq => by simp [splitFirst, hq]
  | p :: l1, q, l2, h1, hq => by
    have hp : f p = false := h1 p (by simp)
    have ih := splitFirst_of_first l1 q l2 (fun x hx => h1 x (by simp [hx])) hq
    simp [splitFirst, hp, ih]

theorem pick_spec (k : Nat) (b : Bool) (loc : Loc) (p : Nat × Int) (l : List (Nat × Int)) :
    (pick k b loc p l).1 ++ (pick k b loc p l).2.1 :: (pick k b loc p l).2.2 = p :: l := by
  unfold pick
  cases h : splitFirst (hits k b loc) (p :: l) with
  | none => rfl
  | some t =>
    obtain ⟨l1, q, l2⟩ := t
    exact (splitFirst_spec h).1.symm

theorem skipTask_spec {k cell : Nat} {x : Int} {rest rest' : List CStep} (h : skipTask k cell x rest = some rest') :
    cell < k ∧ x = 0 ∧ CStep.swap cell ∉ rest' ∧
      ∃ m1 m2, rest = m1 ++ CStep.addHot cell :: m2 ∧ rest' = m1 ++ m2 := by
  unfold skipTask at h
  split at h
  · next hc =>
    simp only [Bool.and_eq_true, decide_eq_true_eq, Bool.not_eq_true', List.contains_eq_mem,
      decide_eq_false_iff_not] at hc
    split at h
    · next m1 q m2 hs =>
      cases h
      obtain ⟨e1, e2, _⟩ := splitFirst_spec hs
      obtain rfl : q = CStep.addHot cell := by simpa using e2
      -- `swap cell` is not among the steps that remain, with or without the `addHot` taken out
      exact ⟨hc.1.1, hc.1.2, by simpa [e1] using hc.2, m1, m2, e1, rfl⟩
    · cases h
  · cases h

/-! (2) The equations under `C02.publish_as_cas_loop_accepted` and `C02.collector_drain_any_order`. -/

theorem fetchAdd_single {e : Ev} {c : Hp.St} {pc : Pc} {loc : Loc} {ord : String} {a x : UInt64} {ok : Bool}
    {msg : String} {onOk : Res} (hk : e.k = "A") (hl : parseLoc e.loc = loc) (ho : ordGe e.ord ord = true)
    (ha : e.a = a) (hr : e.res = x) (hok : ok = true) (hi : pc.icur = none) :
    fetchAdd e c pc loc ord a x ok msg onOk = .ok (faDone onOk) := by
  simp [fetchAdd, hk, hl, ho, ha, hr, hok, hi, Conc.guard, faDone]

theorem fetchAdd_load {e : Ev} {c : Hp.St} {pc : Pc} {loc : Loc} {ord : String} {a x : UInt64} {ok : Bool}
    {msg : String} {onOk : Res} (hk : e.k = "L") (hl : parseLoc e.loc = loc) (hr : e.res = x) (hi : pc.icur = none) :
    fetchAdd e c pc loc ord a x ok msg onOk = .ok (c, { pc with icur := some x, ifailed := false }, none) := by
  simp [fetchAdd, faLoad, hk, hl, hr, hi, ordGe_relaxed, Conc.guard]

theorem fetchAdd_cas_ok {e : Ev} {c : Hp.St} {pc : Pc} {loc : Loc} {ord : String} {a x cur : UInt64} {ok : Bool}
    {msg : String} {onOk : Res} (hi : pc.icur = some cur) (hk : e.k = "C") (hl : parseLoc e.loc = loc)
    (ho : ordGe e.ord ord = true) (ha : e.a = cur) (hb : e.b = cur + a) (hs : e.ok = true)
    (hx : x = cur) (hr : e.res = cur) (hok : ok = true) :
    fetchAdd e c pc loc ord a x ok msg onOk = .ok (faDone onOk) := by
  simp [fetchAdd, hi, hk, hl, ho, ha, hb, hs, hx, hr, hok, Conc.guard, faDone]

theorem fetchAdd_cas_failed {e : Ev} {c : Hp.St} {pc : Pc} {loc : Loc} {ord : String} {a x cur : UInt64} {ok : Bool}
    {msg : String} {onOk : Res} (hi : pc.icur = some cur) (hk : e.k = "C") (hl : parseLoc e.loc = loc)
    (ho : ordGe e.ord ord = true) (ha : e.a = cur) (hb : e.b = cur + a) (hs : e.ok = false) (hr : e.res = x) :
    fetchAdd e c pc loc ord a x ok msg onOk = .ok (c, { pc with icur := some x, ifailed := true }, none) := by
  simp [fetchAdd, hi, hk, hl, ho, ha, hb, hs, hr, Conc.guard]

theorem evStep_colMove {k : Nat} {c : Hp.St} {cuts : Cuts} {e : Ev} {pc : Pc} {cold : Bool} {ov : Nat}
    {todo : List CStep} {taken : Cells} {S : List Obs} (ht : pc.task = some (.colMove cold ov todo taken S)) :
    evStep k c cuts e pc = colStep k c cuts e pc cold ov todo taken S := by
  unfold evStep evStep1
  simp only [ht]

theorem splitFirst_stepLoc {k : Nat} {cold : Bool} {loc : Loc} {l1 l2 : List CStep} {st : CStep}
    (h1 : ∀ x ∈ l1, stepLoc k cold x ≠ loc) (hq : stepLoc k cold st = loc) :
    splitFirst (fun st => stepLoc k cold st == loc) (l1 ++ st :: l2) = some (l1, st, l2) :=
  splitFirst_of_first l1 st l2 (fun x hx => by simpa using h1 x hx) (by simpa using hq)

theorem colStep_any_step {k : Nat} {c : Hp.St} {cuts : Cuts} {e : Ev} {pc : Pc} {cold : Bool} {ov : Nat}
    {l1 l2 : List CStep} {st : CStep} {taken : Cells} {S : List Obs}
    (h1 : ∀ x ∈ l1, stepLoc k cold x ≠ parseLoc e.loc) (hq : stepLoc k cold st = parseLoc e.loc) :
    colStep k c cuts e pc cold ov (l1 ++ st :: l2) taken S = colStep k c cuts e pc cold ov (st :: (l1 ++ l2)) taken S := by
  have e1 := splitFirst_stepLoc (l2 := l2) h1 hq
  have e2 : splitFirst (fun st => stepLoc k cold st == parseLoc e.loc) (st :: (l1 ++ l2)) = some ([], st, l1 ++ l2) :=
    splitFirst_stepLoc (l1 := []) (by simp) hq
  unfold colStep
  simp only [e1, e2]
  cases st <;> rfl

theorem colStep_rejects_addHot_before_swap {k : Nat} {c : Hp.St} {cuts : Cuts} {e : Ev} {pc : Pc} {cold : Bool}
    {ov cell : Nat} {l1 l2 : List CStep} {taken : Cells} {S : List Obs}
    (h1 : ∀ x ∈ l1, stepLoc k cold x ≠ parseLoc e.loc) (hq : stepLoc k cold (.addHot cell) = parseLoc e.loc)
    (hs : CStep.swap cell ∈ l1 ++ l2) :
    ∃ m, colStep k c cuts e pc cold ov (l1 ++ CStep.addHot cell :: l2) taken S = .error m := by
  have e1 := splitFirst_stepLoc (l2 := l2) h1 hq
  have hc : (l1 ++ l2).contains (CStep.swap cell) = true := by simpa using hs
  unfold colStep
  simp only [e1, hc, if_true]
  exact ⟨_, rfl⟩

theorem colStep_rejects_early_unlock {k : Nat} {c : Hp.St} {cuts : Cuts} {e : Ev} {pc : Pc} {cold : Bool}
    {ov : Nat} {l1 l2 : List CStep} {taken : Cells} {S : List Obs}
    (h1 : ∀ x ∈ l1, stepLoc k cold x ≠ parseLoc e.loc) (hq : stepLoc k cold .unlock = parseLoc e.loc)
    (hne : l1 ++ l2 ≠ []) :
    ∃ m, colStep k c cuts e pc cold ov (l1 ++ CStep.unlock :: l2) taken S = .error m := by
  have e1 := splitFirst_stepLoc (l2 := l2) h1 hq
  have hc : (!(l1 ++ l2).isEmpty) = true := by
    cases h : l1 ++ l2 with
    | nil => exact absurd h hne
    | cons _ _ => rfl
  unfold colStep
  simp only [e1, hc, if_true]
  exact ⟨_, rfl⟩

theorem colStep_rejects_no_step {k : Nat} {c : Hp.St} {cuts : Cuts} {e : Ev} {pc : Pc} {cold : Bool}
    {ov : Nat} {todo : List CStep} {taken : Cells} {S : List Obs}
    (h : ∀ x ∈ todo, stepLoc k cold x ≠ parseLoc e.loc) (hz : ∀ z ∈ pc.zeros, parseLoc e.loc ≠ .bkt (!cold) z) :
    ∃ m, colStep k c cuts e pc cold ov todo taken S = .error m := by
  have e1 : splitFirst (fun st => stepLoc k cold st == parseLoc e.loc) todo = none :=
    splitFirst_eq_none_iff.2 fun x hx => by simpa using h x hx
  have e2 : pc.zeros.find? (fun z => parseLoc e.loc == .bkt (!cold) z) = none := by
    rw [List.find?_eq_none]
    intro z hz'; simpa using hz z hz'
  unfold colStep
  simp only [e1, e2]
  exact ⟨_, rfl⟩

/-! (3) Exhibits (`pick_of_hit`, `pick_of_no_hit`, `evStep_obsRun` serve the `obsRun_*` ones). -/

/-- after a failed exchange both ways of writing the loop are accepted: loading again, or `Err(v) => cur = v` -/
theorem casLoop_after_failure (e : Ev) (c : Hp.St) (pc : Pc) (b : Bool) (cell : Nat) (a : Int) (onOk : Res)
    (cur : Int) (hc : pc.cur = some cur) (hf : pc.failed = true) :
    casLoop e c pc b cell a onOk =
      if e.k = "L" then casLoop e c { pc with cur := none } b cell a onOk
      else casLoop e c { pc with failed := false } b cell a onOk := by
  unfold casLoop
  by_cases hk : e.k = "L"
  · simp [hc, hf, hk, casLoad]
  · simp [hc, hf, hk]

/-- a failed exchange leaves the call in the state `casLoop_after_failure` starts from -/
theorem casLoop_failure {e : Ev} {c : Hp.St} {pc : Pc} {b : Bool} {cell : Nat} {a : Int} {onOk r : Res}
    (h : casLoop e c pc b cell a onOk = .ok r) (hk : e.k = "C") (hok : e.ok = false) :
    r = (c, { pc with cur := some ((c.sh b).cell cell), failed := true }, none) ∧
      e.res = f64OfInt ((c.sh b).cell cell) := by
  rcases (casLoop_cases h).2 with ⟨hl, _⟩ | ⟨_, hs, _⟩ | ⟨_, _, hr⟩
  · exact absurd (hk.symm.trans hl) (by decide +kernel)
  · rw [hok] at hs; cases hs
  · exact hr

/-- the same two ways of writing the loop, at every `fetch_add` site -/
theorem fetchAdd_after_failure (e : Ev) (c : Hp.St) (pc : Pc) (loc : Loc) (ord : String) (a x : UInt64) (ok : Bool)
    (msg : String) (onOk : Res) (cur : UInt64) (hc : pc.icur = some cur) (hf : pc.ifailed = true) :
    fetchAdd e c pc loc ord a x ok msg onOk =
      if e.k = "L" then fetchAdd e c { pc with icur := none } loc ord a x ok msg onOk
      else fetchAdd e c { pc with ifailed := false } loc ord a x ok msg onOk := by
  unfold fetchAdd
  by_cases hk : e.k = "L"
  · simp [hc, hf, hk, faLoad]
  · simp [hc, hf, hk]

/-- an event that `pick` / `colStep` cannot place addresses none of the remaining entries / steps -/
theorem splitFirst_none {α : Type} {f : α → Bool} : ∀ {l : List α},
    splitFirst f l = none → ∀ x ∈ l, f x = false :=
  splitFirst_eq_none_iff.1

theorem pick_of_hit {k : Nat} {b : Bool} {loc : Loc} {p : Nat × Int} {l l1 l2 : List (Nat × Int)} {q : Nat × Int}
    (hl : p :: l = l1 ++ q :: l2) (h1 : ∀ x ∈ l1, hits k b loc x = false) (hq : hits k b loc q = true) :
    pick k b loc p l = (l1, q, l2) := by
  unfold pick
  rw [hl, splitFirst_of_first l1 q l2 h1 hq]; rfl

theorem pick_of_no_hit {k : Nat} {b : Bool} {loc : Loc} {p : Nat × Int} {l : List (Nat × Int)}
    (h : ∀ x ∈ p :: l, hits k b loc x = false) : pick k b loc p l = ([], p, l) := by
  unfold pick
  rw [splitFirst_eq_none_iff.2 h]; rfl

theorem evStep_obsRun {k : Nat} {c : Hp.St} {cuts : Cuts} {e : Ev} {pc : Pc} {o : Obs} {b : Bool}
    {p : Nat × Int} {l : List (Nat × Int)} (ht : pc.task = some (.obsRun o b (p :: l))) :
    evStep k c cuts e pc =
      plainR cuts (obsEntry k c e pc o b (pick k b (parseLoc e.loc) p l).2.1.1 (pick k b (parseLoc e.loc) p l).2.1.2
        ((pick k b (parseLoc e.loc) p l).1 ++ (pick k b (parseLoc e.loc) p l).2.2)) := by
  unfold evStep evStep1
  simp only [ht]

/-- the updates of one observation are accepted in any order: an event is checked against the first remaining entry
    on its location (`obsEntry`), wherever in the list that entry stands -/
theorem obsRun_accepts_any_entry {k : Nat} {c : Hp.St} {cuts : Cuts} {e : Ev} {pc : Pc} {o : Obs} {b : Bool}
    {l1 l2 : List (Nat × Int)} {cell : Nat} {a : Int}
    (ht : pc.task = some (.obsRun o b (l1 ++ (cell, a) :: l2)))
    (h1 : ∀ x ∈ l1, hits k b (parseLoc e.loc) x = false)
    (hq : hits k b (parseLoc e.loc) (cell, a) = true) :
    evStep k c cuts e pc = plainR cuts (obsEntry k c e pc o b cell a (l1 ++ l2)) := by
  cases hl : l1 ++ (cell, a) :: l2 with
  | nil => simp at hl
  | cons p l =>
    rw [hl] at ht
    rw [evStep_obsRun ht, pick_of_hit hl.symm h1 hq]

/-- the lists `l1 ++ (cell, a) :: l2` and `(cell, a) :: (l1 ++ l2)` are treated alike -/
theorem obsRun_entry_as_head {k : Nat} {c : Hp.St} {cuts : Cuts} {e : Ev} {pc pc₀ : Pc} {o : Obs} {b : Bool}
    {l1 l2 : List (Nat × Int)} {cell : Nat} {a : Int}
    (ht : pc.task = some (.obsRun o b (l1 ++ (cell, a) :: l2)))
    (ht₀ : pc₀.task = some (.obsRun o b ((cell, a) :: (l1 ++ l2))))
    (h1 : ∀ x ∈ l1, hits k b (parseLoc e.loc) x = false)
    (hq : hits k b (parseLoc e.loc) (cell, a) = true) :
    evStep k c cuts e pc = plainR cuts (obsEntry k c e pc o b cell a (l1 ++ l2)) ∧
    evStep k c cuts e pc₀ = plainR cuts (obsEntry k c e pc₀ o b cell a (l1 ++ l2)) :=
  ⟨obsRun_accepts_any_entry ht h1 hq,
   obsRun_accepts_any_entry (l1 := []) (by simpa using ht₀) (by simp) hq⟩

theorem obsRun_no_entry {k : Nat} {c : Hp.St} {cuts : Cuts} {e : Ev} {pc : Pc} {o : Obs} {b : Bool}
    {p : Nat × Int} {l : List (Nat × Int)} (ht : pc.task = some (.obsRun o b (p :: l)))
    (h : ∀ x ∈ p :: l, hits k b (parseLoc e.loc) x = false) :
    evStep k c cuts e pc = plainR cuts (obsEntry k c e pc o b p.1 p.2 l) := by
  rw [evStep_obsRun ht, pick_of_no_hit h]; rfl

/-- a bucket update that falls between the load and the exchange of the sum loop leaves that loop's state
    (`cur`, `failed`) as it is -/
theorem obsEntry_bucket_keeps_loop {k : Nat} {c : Hp.St} {e : Ev} {pc : Pc} {o : Obs} {b : Bool} {cell : Nat}
    {a : Int} {rest : List (Nat × Int)} {r : Res} (hc : cell < k)
    (h : obsEntry k c e pc o b cell a rest = .ok r) :
    r.2.1.cur = pc.cur ∧ r.2.1.failed = pc.failed ∧
      (r.2.1.task = some (.obsRun o b rest) ∨ (r.2.1.task = pc.task ∧ r.1 = c ∧ r.2.2 = none)) := by
  simp only [obsEntry, hc, if_true] at h
  rcases fetchAdd_cases h with ⟨⟨ic, f, hr⟩, _⟩ | ⟨hr, _⟩
  · cases hr; exact ⟨rfl, rfl, .inr ⟨rfl, rfl, rfl⟩⟩
  · cases hr; exact ⟨rfl, rfl, .inl rfl⟩

/-- the skip is accepted: swapping 0 out of a bucket takes the `addHot` of that bucket too -/
theorem skipTask_of_zero {k cell : Nat} {m1 m2 : List CStep} (hc : cell < k)
    (hs : CStep.swap cell ∉ m1 ++ CStep.addHot cell :: m2) (h1 : CStep.addHot cell ∉ m1) :
    skipTask k cell 0 (m1 ++ CStep.addHot cell :: m2) = some (m1 ++ m2) := by
  unfold skipTask
  have : (m1 ++ CStep.addHot cell :: m2).contains (CStep.swap cell) = false := by
    simpa using hs
  simp only [hc, decide_true, this, Bool.not_false, Bool.and_self, if_true]
  rw [splitFirst_of_first m1 (CStep.addHot cell) m2 (fun x hx => by
    simp only [beq_eq_false_iff_ne, ne_eq]; rintro rfl; exact h1 hx) (by simp)]

/-- no skip on the sum cell or on a value other than 0: the `fetch_add` of the `addHot` is then demanded -/
theorem skipTask_none {k cell : Nat} {x : Int} {rest : List CStep} (h : ¬ (cell < k ∧ x = 0)) :
    skipTask k cell x rest = none := by
  unfold skipTask
  split
  · next hc =>
    simp only [Bool.and_eq_true, decide_eq_true_eq] at hc
    exact absurd ⟨hc.1.1, hc.1.2⟩ h
  · rfl

end Prom.HM
