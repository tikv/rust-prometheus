import Prom.Model.Registry
import Prom.Lemmas.Sort
/- The sample comparator of `gather` is a total preorder: lexicographic on
   (number of labels, label values, timestamp). -/
namespace Prom

/-- the label values of a sample, in label order: what the comparator compares after the number of labels -/
def vals (s : Sample) : List Str := s.labels.map (·.value)

theorem cmpTail_firstDiff_iff (p : Bool) : ∀ (a b : List LabelPair), a.length = b.length →
    (cmpTail (firstDiff a b) p = true ↔
      (a.map (·.value) < b.map (·.value) ∨ (a.map (·.value) = b.map (·.value) ∧ p = true))) := by
  intro a
  induction a with
  | nil =>
    intro b hl
    cases b with
    | nil => simp [firstDiff, cmpTail]
    | cons y ys => cases hl
  | cons x xs ih =>
    intro b hl
    cases b with
    | nil => cases hl
    | cons y ys =>
      unfold firstDiff
      simp only [List.map_cons, List.cons_lt_cons_iff, List.cons.injEq]
      by_cases hxy : x.value = y.value
      · rw [if_neg (by simpa using hxy), ih ys (Nat.succ.inj hl)]
        simp only [hxy, List.lt_irrefl, true_and, false_or]
      · rw [if_pos (by simpa using hxy)]
        simp only [cmpTail, hxy, false_and, or_false, strLe_iff]
        exact ⟨fun h => Std.lt_of_le_of_ne h hxy, List.le_of_lt⟩

theorem sampleLe_iff (a b : Sample) :
    sampleLe a b = true ↔
      a.labels.length < b.labels.length ∨
      (a.labels.length = b.labels.length ∧ (vals a < vals b ∨ (vals a = vals b ∧ a.ts ≤ b.ts))) := by
  unfold sampleLe
  by_cases hl : a.labels.length = b.labels.length
  · rw [if_neg (by simpa using hl), cmpTail_firstDiff_iff _ _ _ hl]
    simp only [decide_eq_true_eq, vals, hl, Nat.lt_irrefl, true_and, false_or]
  · rw [if_pos (by simpa using hl)]
    simp only [decide_eq_true_eq, hl, false_and, or_false]
    omega

theorem sampleLe_trans (a b c : Sample) (h1 : sampleLe a b = true) (h2 : sampleLe b c = true) : sampleLe a c = true := by
  rw [sampleLe_iff] at *
  rcases h1 with h1 | ⟨l1, h1⟩ <;> rcases h2 with h2 | ⟨l2, h2⟩
  · exact Or.inl (by omega)
  · exact Or.inl (by omega)
  · exact Or.inl (by omega)
  · refine Or.inr ⟨by omega, ?_⟩
    rcases h1 with h1 | ⟨e1, t1⟩ <;> rcases h2 with h2 | ⟨e2, t2⟩
    · exact Or.inl (List.lt_trans h1 h2)
    · exact Or.inl (e2 ▸ h1)
    · exact Or.inl (e1 ▸ h2)
    · exact Or.inr ⟨e1.trans e2, by omega⟩

theorem sampleLe_total (a b : Sample) : sampleLe a b = true ∨ sampleLe b a = true := by
  rw [sampleLe_iff, sampleLe_iff]
  rcases Nat.lt_trichotomy a.labels.length b.labels.length with h | h | h
  · exact Or.inl (Or.inl h)
  · by_cases hab : vals a < vals b
    · exact Or.inl (Or.inr ⟨h, Or.inl hab⟩)
    · by_cases hba : vals b < vals a
      · exact Or.inr (Or.inr ⟨h.symm, Or.inl hba⟩)
      · have he : vals a = vals b := Std.le_antisymm (List.not_lt.1 hba) (List.not_lt.1 hab)
        rcases Int.le_total a.ts b.ts with ht | ht
        · exact Or.inl (Or.inr ⟨h, Or.inr ⟨he, ht⟩⟩)
        · exact Or.inr (Or.inr ⟨h.symm, Or.inr ⟨he.symm, ht⟩⟩)
  · exact Or.inr (Or.inl h)

theorem sampleLe_antisymm_key (a b : Sample) (h1 : sampleLe a b = true) (h2 : sampleLe b a = true) :
    a.labels.length = b.labels.length ∧ vals a = vals b ∧ a.ts = b.ts := by
  rw [sampleLe_iff] at *
  rcases h1 with h1 | ⟨l1, h1⟩ <;> rcases h2 with h2 | ⟨l2, h2⟩
  · omega
  · omega
  · omega
  · refine ⟨l1, ?_⟩
    rcases h1 with h1 | ⟨e1, t1⟩ <;> rcases h2 with h2 | ⟨e2, t2⟩
    · exact absurd h2 (List.lt_asymm h1)
    · exact absurd h1 (by rw [e2]; exact List.lt_irrefl _)
    · exact absurd h2 (by rw [e1]; exact List.lt_irrefl _)
    · exact ⟨e1, by omega⟩

end Prom
