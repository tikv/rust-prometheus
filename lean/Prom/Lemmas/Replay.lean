import Prom.Lemmas.Guard
import Prom.Lemmas.RealTime
/-
Replay machines: what the cell, vector and registry machines have in common. First the initial threads
and the call and return marks, which all three accept through `Conc.openCall` / `Conc.closeCall` (the
histogram machine shares the threads, the return mark and `Run`); then `ItemStep`, the one fact each
machine proves about its item function, and what follows from it for every run.
-/
namespace Prom.RT
open Prom.Conc

theorem init_thread {Pc} {prog : List (List String)} {t : Nat} {th : Th Pc}
    (h : (prog.map fun ops => ({ ops := ops } : Th Pc))[t]? = some th) :
    prog[t]? = some th.ops ∧ th.idx = 0 ∧ th.pc = none ∧ th.retv = none := by
  simp only [List.getElem?_map, Option.map_eq_some_iff] at h
  obtain ⟨ops, hp, rfl⟩ := h
  exact ⟨hp, rfl, rfl, rfl⟩

theorem openCall_okAll {Pc} (th : Th Pc) (i op : String) (mk : String → Option Pc) (skip : String → Bool) :
    OkAll (fun th' => th.pc = none ∧ th.retv = none ∧ th.ops.getD th.idx "" = op ∧
      th' = if skip op then { th with retv := some "" } else { th with pc := mk op }) (openCall th i op mk skip) := by
  unfold openCall
  simp only [okAll_ite, okAll_ok, okAll_error, implies_true, true_and, Bool.or_eq_true, not_or,
    Option.isSome_iff_ne_none, bne_iff_ne, ne_eq, Decidable.not_not]
  intro ⟨hpc, hrv⟩ _ hop
  exact ⟨fun hs => ⟨hpc, hrv, hop, (if_pos hs).symm⟩, fun hs => ⟨hpc, hrv, hop, (if_neg hs).symm⟩⟩

theorem closeCall_okAll {Pc} (th : Th Pc) (i v : String) :
    OkAll (fun th' => th.retv = some v ∧ th' = { th with idx := th.idx + 1, retv := none }) (closeCall th i v) := by
  unfold closeCall
  cases hrv : th.retv with
  | none => exact okAll_error.2 trivial
  | some rv =>
    simp only [okAll_ite, okAll_ok, okAll_error]
    exact ⟨fun _ => trivial, fun _ => ⟨fun _ => trivial, fun h => ⟨by simpa using h, trivial⟩⟩⟩

theorem openCall_busy {Pc} {th th' : Th Pc} {op : String} {mk : String → Option Pc} {skip : String → Bool}
    (hmk : skip op = false → (mk op).isSome = true)
    (h : th' = if skip op then { th with retv := some "" } else { th with pc := mk op }) :
    th'.ops = th.ops ∧ th'.idx = th.idx ∧ busy th' = true := by
  subst h
  cases hs : skip op
  · simp [busy, hmk hs]
  · simp [busy]

/-- what an accepted item does to the threads `ths` and the commit log `lin` (entries tagged by `tid`, `idx`): one
    thread `t` is replaced and keeps its program, and one of three things holds (the order of the disjuncts, which
    `step_view`, `inv_step` and `commit_within_call` destructure):
    * RETURN: the log stays and the call index advances - or stays, in a machine with calls that have no index of
      their own (`sub`: the vector machine's handle updates, reported as sub-calls `<i>u`);
    * QUIET: call index and log stay, the thread is busy afterwards (a call mark, an event that commits nothing);
    * COMMIT: the call index stays, the thread is busy afterwards, and the log gets ONE entry, appended by an event of
      `t` whose call is open and tagged with `t` and that call. -/
def ItemStep {Pc L} (sub : Bool) (tid idx : L → Nat) (ths ths' : List (Th Pc)) (lin lin' : List L) (it : Item) : Prop :=
  ∃ t th th', ths[t]? = some th ∧ ths' = ths.set t th' ∧ th'.ops = th.ops ∧
    ((lin' = lin ∧ (th'.idx = th.idx + 1 ∨ (sub = true ∧ th'.idx = th.idx))) ∨
     (th'.idx = th.idx ∧ busy th' = true ∧
       (lin' = lin ∨ ∃ e x, it = .ev e ∧ e.tid = t ∧ th.pc.isSome = true ∧
          lin' = lin ++ [x] ∧ tid x = t ∧ idx x = th.idx)))

/-- a machine packaged for the lemmas below: its item function, the threads and the commit log of a state, the tags of
    a log entry, `sub` = it has calls without an index of their own, and `step`, the one fact to prove about it -/
structure Replay (S Pc L : Type) where
  item : S → Item → Except String S
  ths : S → List (Th Pc)
  lin : S → List L
  tid : L → Nat
  idx : L → Nat
  sub : Bool
  step : ∀ {s s' it}, item s it = .ok s' → ItemStep sub tid idx (ths s) (ths s') (lin s) (lin s') it

/-- The property statements name their own inductives, which are `Run item s0` or its closure under the initial states:
    `AReach s0 = Run aItem s0` (`aReach_iff_run`), `VRun = Run vItem` (`vRun_iff_run`), `VReach prog = VRun (vInit prog)`
    (`vReach_iff_vRun`), `RRun`, `RReach` likewise (`rRun_iff_run`, `rReach_iff_rRun`), `MReach` closed under `Run`
    (`MReach.of_run`). -/
inductive Run {S} (item : S → Item → Except String S) (s0 : S) : S → Prop
  | init : Run item s0 s0
  | step {s s' it} : Run item s0 s → item s it = .ok s' → Run item s0 s'

theorem Run.trans {S} {item : S → Item → Except String S} {s0 s1 s2 : S} (h1 : Run item s0 s1)
    (h2 : Run item s1 s2) : Run item s0 s2 := by
  induction h2 with
  | init => exact h1
  | step _ hs ih => exact .step ih hs

theorem runItems_cons_ok {S} {step : S → Item → Except String S} {s s' : S} {it : Item} {r : List Item} {n : Nat}
    (h : runItems step s (it :: r) n = .ok s') : ∃ s1, step s it = .ok s1 ∧ runItems step s1 r (n + 1) = .ok s' := by
  simp only [runItems] at h
  split at h
  · next s1 h1 => exact ⟨s1, h1, h⟩
  · cases h

theorem Run.of_runItems {S} {item : S → Item → Except String S} {s s' : S} {tr : List Item} {n : Nat}
    (h : runItems item s tr n = .ok s') : Run item s s' := by
  induction tr generalizing s n with
  | nil => cases h; exact .init
  | cons it r ih =>
    obtain ⟨s1, h1, h⟩ := runItems_cons_ok h
    exact (Run.step .init h1).trans (ih h)

theorem runItems_accepts {S} {step : S → Item → Except String S} : ∀ {tr : List Item} {s s' : S} {n : Nat},
    runItems step s tr n = .ok s' → ∀ it ∈ tr, ∃ s0 s1, step s0 it = .ok s1
  | [], _, _, _, _, _, hit => by cases hit
  | it0 :: r, s, s', n, h, it, hit => by
    obtain ⟨s1, hs, h⟩ := runItems_cons_ok h
    rcases List.mem_cons.mp hit with rfl | hit
    · exact ⟨s, s1, hs⟩
    · exact runItems_accepts h it hit

/-- `m`, the position the second part starts at, is given as a numeral so that no term has to be normalised -/
theorem runItems_append {S} {step : S → Item → Except String S} {s s1 : S} {a : List Item} {n : Nat}
    (h : runItems step s a n = .ok s1) (b : List Item) (m : Nat) (hm : m = n + a.length := by decide) :
    runItems step s (a ++ b) n = runItems step s1 b m := by
  subst hm
  induction a generalizing s n with
  | nil => cases h; rfl
  | cons it r ih =>
    obtain ⟨s2, h2, h⟩ := runItems_cons_ok h
    simp only [List.cons_append, runItems, h2]
    rw [ih h, List.length_cons]; congr 1; omega

theorem runItems_of_take {S} {step : S → Item → Except String S} {s s1 : S} {tr : List Item} {n : Nat} (k : Nat)
    (h : runItems step s (tr.take k) n = .ok s1) (m : Nat) (hm : m = n + (tr.take k).length := by decide) :
    runItems step s tr n = runItems step s1 (tr.drop k) m := by
  rw [← runItems_append h _ m hm, List.take_append_drop]

/-- how the example-trace theorems get their reachability conjunct: `simp` with the machine's definitions proves
    `∃ s, run = .ok s ∧ P s`, `hR` (`runItems_reach`, `runItems_vReach`, `runItems_rReach`) adds `R s` = "`s` is
    reachable"; used as `refine accepted runItems_reach ?_` -/
theorem accepted {S} {item : S → Item → Except String S} {s0 : S} {tr : List Item} {R P : S → Prop}
    (hR : ∀ {s}, runItems item s0 tr 0 = .ok s → R s) (h : ∃ s, runItems item s0 tr 0 = .ok s ∧ P s) :
    ∃ s, runItems item s0 tr 0 = .ok s ∧ R s ∧ P s :=
  let ⟨s, hr, hp⟩ := h; ⟨s, hr, hR hr, hp⟩

namespace Replay
variable {S Pc L : Type} (M : Replay S Pc L)

def view (s : S) : View Pc := ⟨M.ths s, (M.lin s).map fun x => (M.tid x, M.idx x)⟩

theorem step_view {s s' : S} {it : Item} (h : M.item s it = .ok s') : Step (M.view s) (M.view s') := by
  obtain ⟨t, th, th', hth, hs, hops, ⟨hl, hi⟩ | ⟨hi, _, hl | ⟨e, x, _, _, hp, hl, hx1, hx2⟩⟩⟩ := M.step h
  · exact ⟨t, th, th', hth, hs, hops, by omega, .inl (by simp [view, hl])⟩
  · exact ⟨t, th, th', hth, hs, hops, by omega, .inl (by simp [view, hl])⟩
  · exact ⟨t, th, th', hth, hs, hops, by omega, .inr ⟨hi, hp, by simp [view, hl, hx1, hx2]⟩⟩

/-- without sub-calls `Inv` is preserved by every accepted item: a thread whose call index stays is busy
    afterwards, so the entries of its current call keep belonging to an open or complete call -/
theorem inv_step (hsub : M.sub = false) {s s' : S} {it : Item} (hv : Inv (M.view s)) (h : M.item s it = .ok s') :
    Inv (M.view s') := by
  obtain ⟨t, th, th', hth, hs, hops, hcase⟩ := M.step h
  have old := log_set (R := fun i y => i < y.idx ∨ (i = y.idx ∧ busy y = true)) hv hth (th' := th') fun i hi => by
    rcases hcase with ⟨_, hi' | ⟨hs', _⟩⟩ | ⟨hi', hb, _⟩
    · left; omega
    · rw [hsub] at hs'; cases hs'
    · exact hi.imp (by omega) fun ⟨he, _⟩ => ⟨by omega, hb⟩
  intro x hx
  show ∃ y, (M.ths s')[x.1]? = some y ∧ _
  rw [hs]
  rcases hcase with ⟨hl, _⟩ | ⟨hi, hb, hl | ⟨e, y, _, _, _, hl, hy1, hy2⟩⟩
  · exact old x (by simpa [view, hl] using hx)
  · exact old x (by simpa [view, hl] using hx)
  · simp only [view, hl, List.map_append, List.map_cons, List.map_nil, List.mem_append, List.mem_singleton] at hx
    rcases hx with hx | rfl
    · exact old x hx
    · rw [hy1, hy2, getElem?_set_of_some hth]
      exact ⟨th', by simp, .inr ⟨hi.symm, hb⟩⟩

theorem commit_within_call {s s' : S} {it : Item} (h : M.item s it = .ok s') :
    M.lin s' = M.lin s ∨
    ∃ e th x, it = .ev e ∧ (M.ths s)[e.tid]? = some th ∧ th.pc.isSome = true ∧
      M.lin s' = M.lin s ++ [x] ∧ M.tid x = e.tid ∧ M.idx x = th.idx ∧
      ∃ th', (M.ths s')[e.tid]? = some th' ∧ th'.idx = th.idx ∧ th'.ops = th.ops := by
  obtain ⟨t, th, th', hth, hs, hops, ⟨hl, _⟩ | ⟨hi, _, hl | ⟨e, x, hit, rfl, hp, hl, hx1, hx2⟩⟩⟩ := M.step h
  · exact .inl hl
  · exact .inl hl
  · refine .inr ⟨e, th, x, hit, hth, hp, hl, hx1, hx2, th', ?_, hi, hops⟩
    rw [hs, getElem?_set_of_some hth]; simp

theorem lin_mono {s s' : S} {it : Item} (h : M.item s it = .ok s') : M.lin s <+: M.lin s' := by
  rcases M.commit_within_call h with hl | ⟨_, _, x, _, _, _, hl, _⟩
  · rw [hl]; exact List.prefix_refl _
  · rw [hl]; exact List.prefix_append _ _

theorem run_lin_prefix {s s' : S} (h : Run M.item s s') : M.lin s <+: M.lin s' := by
  induction h with
  | init => exact List.prefix_refl _
  | step _ hs ih => exact ih.trans (M.lin_mono hs)

theorem run_ext {s s' : S} (h : Run M.item s s') : Ext (M.view s) (M.view s') := by
  induction h with
  | init => exact Ext.refl _
  | step _ hs ih => exact ih.step (M.step_view hs)

theorem run_th_pres {s s' : S} (h : Run M.item s s') {t : Nat} {th : Th Pc} (hth : (M.ths s)[t]? = some th) :
    ∃ th', (M.ths s')[t]? = some th' ∧ th'.ops = th.ops ∧ th.idx ≤ th'.idx :=
  (M.run_ext h).2.1 t th hth

theorem run_bound_view {s0 s : S} (h0 : M.lin s0 = []) (h : Run M.item s0 s) : Bound (M.view s) := by
  induction h with
  | init => intro x hx; simp [view, h0] at hx
  | step _ hs ih => exact (M.step_view hs).bound ih

theorem run_inv_view (hsub : M.sub = false) {s0 s : S} (h0 : M.lin s0 = []) (h : Run M.item s0 s) :
    Inv (M.view s) := by
  induction h with
  | init => intro x hx; simp [view, h0] at hx
  | step _ hs ih => exact M.inv_step hsub ih hs

/-- `run_bound_view` and `run_inv_view` read on the machine's own fields (the forms the property files state) -/
theorem run_bound {s0 s : S} (h0 : M.lin s0 = []) (h : Run M.item s0 s) :
    ∀ e ∈ M.lin s, ∃ th, (M.ths s)[M.tid e]? = some th ∧ M.idx e ≤ th.idx :=
  fun e he => M.run_bound_view h0 h (M.tid e, M.idx e) (List.mem_map.2 ⟨e, he, rfl⟩)

theorem run_inv (hsub : M.sub = false) {s0 s : S} (h0 : M.lin s0 = []) (h : Run M.item s0 s) :
    ∀ e ∈ M.lin s, ∃ th, (M.ths s)[M.tid e]? = some th ∧
      (M.idx e < th.idx ∨ (M.idx e = th.idx ∧ (th.pc.isSome || th.retv.isSome) = true)) :=
  fun e he => M.run_inv_view hsub h0 h (M.tid e, M.idx e) (List.mem_map.2 ⟨e, he, rfl⟩)

theorem no_entry_of_view {s : S} {t i : Nat} (h : ∀ x ∈ (M.view s).log, x ≠ (t, i)) :
    ∀ e ∈ M.lin s, ¬ (M.tid e = t ∧ M.idx e = i) :=
  fun e he het => h (M.tid e, M.idx e) (List.mem_map.2 ⟨e, he, rfl⟩) (by rw [het.1, het.2])

theorem run_new_entries {s s' : S} (h : Run M.item s s') :
    ∃ ext, M.lin s' = M.lin s ++ ext ∧ ∀ x ∈ ext, ∃ th, (M.ths s)[M.tid x]? = some th ∧ th.idx ≤ M.idx x := by
  obtain ⟨ext, hext⟩ := M.run_lin_prefix h
  obtain ⟨_, _, ext', hlog, hnew⟩ := M.run_ext h
  refine ⟨ext, hext.symm, fun x hx => ?_⟩
  have : ext' = ext.map fun e => (M.tid e, M.idx e) := by
    simp only [view, ← hext, List.map_append] at hlog
    exact (List.append_cancel_left hlog).symm
  exact hnew (M.tid x, M.idx x) (this ▸ List.mem_map.2 ⟨x, hx, rfl⟩)

theorem run_returned_pos {s s' : S} (h' : Run M.item s s') {t i : Nat} {th : Th Pc}
    (hth : (M.ths s)[t]? = some th) (hret : i < th.idx) {p : Nat} {x : L}
    (hx : (M.lin s')[p]? = some x) (hxt : M.tid x = t ∧ M.idx x = i) : p < (M.lin s).length := by
  obtain ⟨ext, hl, hnew⟩ := M.run_new_entries h'
  rw [hl, List.getElem?_append] at hx
  by_cases hlt : p < (M.lin s).length
  · exact hlt
  · -- a new entry belongs to a call that had not returned
    rw [if_neg hlt] at hx
    obtain ⟨th0, h0, hle⟩ := hnew x (List.mem_of_getElem? hx)
    rw [hxt.1, hth] at h0; cases h0
    omega

/-- **real-time order**: a call `(t, i)` that has returned in `s` precedes, in the commit log of every
    continuation, every entry of a call `(t', i')` that has no entry in the log of `s` -/
theorem run_real_time {s s' : S} (h' : Run M.item s s') {t i t' i' : Nat} {th : Th Pc}
    (hth : (M.ths s)[t]? = some th) (hret : i < th.idx)
    (hno : ∀ e ∈ M.lin s, ¬ (M.tid e = t' ∧ M.idx e = i'))
    {p q : Nat} {x y : L} (hx : (M.lin s')[p]? = some x) (hy : (M.lin s')[q]? = some y)
    (hxt : M.tid x = t ∧ M.idx x = i) (hyt : M.tid y = t' ∧ M.idx y = i') : p < q := by
  have hp := M.run_returned_pos h' hth hret hx hxt
  -- `y` is no entry of the log of `s`, which is a prefix of the log of `s'`
  obtain ⟨ext, hl⟩ := M.run_lin_prefix h'
  rw [← hl, List.getElem?_append] at hy
  by_cases hq : q < (M.lin s).length
  · rw [if_pos hq] at hy
    exact absurd hyt (hno y (List.mem_of_getElem? hy))
  · omega

end Replay

end Prom.RT
