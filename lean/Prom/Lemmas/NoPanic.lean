import Prom.Model.Fallible
import Prom.Lemmas.ListAux
/- No-panic facts about the panic-explicit model (`Model/Fallible.lean`, C17). A `…P` function is a tree of `if`s and
   `Outcome.bind`s with leaves `.ok`, `.err` (closed by `rfl`) or a partial operation (`unwrap_no_panic`, `idxP_no_panic`);
   `ite_no_panic` and `bind_no_panic` push "does not panic" to the leaves, so a proof is a term of the shape of the
   function. Then the loops of `check_and_adjust_buckets`, `make_label_pairs`, `Desc::new`; `encodeOutcome_cons` by the
   `if` fact `ite_or` (BucketHelpers uses it too); for `escape_string`: `isSpecial_ascii`, `isCharBoundary_zero`. -/
namespace Prom.C17

theorem bind_no_panic {α β} {x : Outcome α} {f : α → Outcome β} (hx : x.isPanic = false)
    (hf : ∀ a, (f a).isPanic = false) : (x.bind f).isPanic = false := by
  cases x with
  | ok a => exact hf a
  | err => rfl
  | panic => cases hx

theorem ite_no_panic {α} {c : Prop} [Decidable c] {x y : Outcome α} (hx : c → x.isPanic = false)
    (hy : ¬c → y.isPanic = false) : (if c then x else y).isPanic = false := by
  split
  · exact hx ‹_›
  · exact hy ‹_›

theorem unwrap_no_panic {α} {o : Option α} (h : o.isSome = true) : (Outcome.unwrap o).isPanic = false := by
  cases o with
  | some a => rfl
  | none => cases h

theorem idxP_ok {α} {l : List α} {i : Nat} (h : i < l.length) : idxP l i = .ok l[i] := by
  simp [idxP, Outcome.unwrap, h]

theorem idxP_no_panic {α} {l : List α} {i : Nat} (h : i < l.length) : (idxP l i).isPanic = false := by
  rw [idxP_ok h]; rfl

/-- the loop indexes `buckets[i + 1]` only under `i < len - 1`: in range whatever part of the list is traversed -/
theorem bucketLoopP_no_panic (bs : List UInt64) (lenM1 : Nat) (hl : lenM1 < bs.length) (rest : List UInt64) :
    ∀ i, (bucketLoopP bs lenM1 rest i).isPanic = false := by
  induction rest with
  | nil => intro _; rfl
  | cons ub r ih =>
    intro i
    exact ite_no_panic (fun _ => rfl) fun _ => ite_no_panic
      (fun h => bind_no_panic (idxP_no_panic (by omega)) fun _ => ite_no_panic (fun _ => rfl) fun _ => ih _)
      fun _ => ih _

theorem pairLoopP_no_panic (vals : List Str) : ∀ (names : List Str) (i : Nat),
    i + names.length ≤ vals.length → (pairLoopP vals names i).isPanic = false := by
  intro names
  induction names with
  | nil => intro i _; rfl
  | cons n r ih =>
    intro i hi
    simp only [List.length_cons] at hi
    exact bind_no_panic (idxP_no_panic (by omega)) fun _ => bind_no_panic (ih (i + 1) (by omega)) fun _ => rfl

theorem lookupAllP_no_panic (m : List (Str × Str)) : ∀ (ks : List Str), (∀ k ∈ ks, k ∈ m.map (·.1)) →
    (lookupAllP m ks).isPanic = false := by
  intro ks
  induction ks with
  | nil => intro _; rfl
  | cons k r ih =>
    intro h
    have hk : (alook m k).isSome = true := alook_isSome.2 (List.mem_map.1 (h k List.mem_cons_self))
    exact bind_no_panic (unwrap_no_panic hk) fun _ =>
      bind_no_panic (ih fun x hx => h x (List.mem_cons_of_mem _ hx)) fun _ => rfl

theorem ite_or {α} (a b : Prop) [Decidable a] [Decidable b] (x y : α) :
    (if a ∨ b then x else y) = if a then x else if b then x else y := by
  by_cases ha : a <;> by_cases hb : b <;> simp [ha, hb]

theorem encodeOutcome_cons (k : EncKind) (wf : Bool) (f : Family) (rest : List Family) :
    encodeOutcome k wf (f :: rest) =
      if f.samples.isEmpty = true ∨ f.name.isEmpty = true ∨ wf = true ∨ (k = .text ∧ f.ty = .untyped) then .err
      else encodeOutcome k wf rest := by
  rw [encodeOutcome, ite_or, ite_or, ite_or]

theorem isSpecial_ascii {quote : Bool} {b : UInt8} (h : isSpecial quote b = true) : b < 0x80 := by
  simp only [isSpecial, Bool.or_eq_true, Bool.and_eq_true, beq_iff_eq] at h
  rcases h with (h | h) | ⟨_, h⟩ <;> rw [h] <;> decide

theorem isCharBoundary_zero (cs : List Char) : isCharBoundary cs 0 = true := by
  cases cs <;> simp [isCharBoundary]

end Prom.C17
