import Prom.Lemmas.Replay
/-
The cell machine `Conc.aItem` (C01, C11), analysed once: each acceptor of an event gets a postcondition that is pushed
through its decision tree (`StartOk`, `CasOk`, `aEv_cases`), an accepted item has one of five shapes (`AShape`), and the
two invariants along runs - the cell holds what the sequential specification makes of the commit log (`aItem_linInv`);
every call commits exactly once (`OnceInv`, `aItem_onceInv`) - are read off the shapes. The property files build on
`aInit`, `AReach` (= `Run` of `aReplay`: `aReach_iff_run`) and through `aReplay` on `Lemmas/Replay.lean`.
-/
namespace Prom.C01
open Prom.Conc Prom.RT

/-- run the sequential specification over a commit log, checking every recorded return value;
    `some v` = the log is a legal sequential history ending in the value `v` -/
def specRun (float : Bool) : UInt64 → List LinEv → Option UInt64
  | v, [] => some v
  | v, l :: r =>
    match specApply float v l.op with
    | some (v', rv) => if rv = l.rv then specRun float v' r else none
    | none => none

theorem specRun_append (float : Bool) (v : UInt64) (l : List LinEv) (x : LinEv) :
    specRun float v (l ++ [x]) = (specRun float v l).bind fun v' => specRun float v' [x] := by
  induction l generalizing v with
  | nil => rfl
  | cons a r ih =>
    rw [List.cons_append, specRun, specRun]
    cases specApply float v a.op with
    | none => rfl
    | some p =>
      dsimp only
      split
      · exact ih _
      · rfl

theorem specRun_cons {float : Bool} {v w : UInt64} {x : LinEv} {r : List LinEv}
    (h : specRun float v (x :: r) = some w) :
    ∃ v', specApply float v x.op = some (v', x.rv) ∧ specRun float v' r = some w := by
  simp only [specRun] at h
  split at h
  · next v' rv hsp =>
    split at h
    · next hrv => exact ⟨v', hrv ▸ hsp, h⟩
    · cases h
  · cases h

theorem specApply_get (float : Bool) (v : UInt64) {op : String} (hg : opName op = "get") :
    specApply float v op = some (v, hexStr v) := by
  simp [specApply, hg]

theorem specApply_set (float : Bool) (v : UInt64) {op : String} (hg : (opName op == "get") = false)
    (hs : (opName op == "set" || opName op == "reset") = true) :
    specApply float v op =
      some (if float then f64OfInt (if opName op == "reset" then 0 else parseIntArg (opArg op))
        else u64OfInt (if opName op == "reset" then 0 else parseIntArg (opArg op)), "") := by
  simp only [specApply, hg, hs, Bool.false_eq_true, ↓reduceIte]

theorem specApply_int (v : UInt64) {op : String} (hg : (opName op == "get") = false)
    (hs : (opName op == "set" || opName op == "reset") = false) :
    specApply false v op = some (if isSubOp op then v - intDelta op else v + intDelta op, "") := by
  simp only [specApply, hg, hs, Bool.false_eq_true, ↓reduceIte]

theorem specApply_float (v : UInt64) {op : String} (hg : (opName op == "get") = false)
    (hs : (opName op == "set" || opName op == "reset") = false) :
    specApply true v op = (floatDelta op).map fun d => (f64Add v d, "") := by
  simp only [specApply, hg, hs, Bool.false_eq_true, ↓reduceIte]

theorem floatDelta_some_names {op : String} {d : UInt64} (hd : floatDelta op = some d) :
    (opName op == "get") = false ∧ (opName op == "set" || opName op == "reset") = false := by
  constructor
  · cases hh : opName op == "get"
    · rfl
    · simp only [beq_iff_eq] at hh; simp [floatDelta, hh] at hd
  · cases hh : (opName op == "set" || opName op == "reset")
    · rfl
    · simp only [Bool.or_eq_true, beq_iff_eq] at hh
      rcases hh with hh | hh <;> simp [floatDelta, hh] at hd

theorem specApply_float_delta (v : UInt64) {op : String} {d : UInt64} (hd : floatDelta op = some d) :
    specApply true v op = some (f64Add v d, "") := by
  obtain ⟨hg, hs⟩ := floatDelta_some_names hd
  rw [specApply_float v hg hs, hd]; rfl

theorem casNew_some_iff {float : Bool} {op : String} {v w : UInt64} :
    casNew float op v = some w ↔
      (float = true ∧ ∃ d, floatDelta op = some d ∧ f64Add v d = w) ∨
      (float = false ∧ (opName op == "get" || opName op == "set" || opName op == "reset") = false ∧
        (if isSubOp op then v - intDelta op else v + intDelta op) = w) := by
  unfold casNew
  cases float
  · cases hn : (opName op == "get" || opName op == "set" || opName op == "reset") <;> simp [hn]
  · cases hd : floatDelta op <;> simp

/-- the value the compare-exchange of an add installs, when it expects the cell's CURRENT value, is the value the
    sequential specification of that add gives - in both flavours -/
theorem casNew_spec {float : Bool} {op : String} {v w : UInt64} (h : casNew float op v = some w) :
    specApply float v op = some (w, "") := by
  rcases casNew_some_iff.1 h with ⟨rfl, d, hd, rfl⟩ | ⟨rfl, hn, rfl⟩
  · exact specApply_float_delta v hd
  · simp only [Bool.or_eq_false_iff] at hn
    exact specApply_int v hn.1.1 (by simp [hn.1.2, hn.2])

/-- what the first step of a call is - an inductive, like `CasOk` and `AShape`, because the proofs that use it
    discriminate on the shape of the result, which `cases` reads off the index; a view whose users only project
    (`ItemStep`) is an existential -/
inductive StartOk (float : Bool) (mem : UInt64) (op : String) (e : Ev) : UInt64 × (APc ⊕ String) → Prop
  /-- it completes the call, taking effect on the current value as the specification says (by a load only if
      the call is a `get`) -/
  | done {m : UInt64} {rv : String} (hs : specApply float mem op = some (m, rv)) (hl : e.k = "L" → opName op = "get") :
      StartOk float mem op e (m, .inr rv)
  /-- the load of an add written as a loop: it changes nothing and goes on to the compare-exchange expecting
      the value loaded -/
  | load (hk : e.k = "L") : StartOk float mem op e (mem, .inl (.cas mem))

theorem aEvStart_okAll (float : Bool) (mem : UInt64) (op : String) (e : Ev) :
    OkAll (StartOk float mem op e) (aEvStart float mem op e) := by
  unfold aEvStart
  simp only [okAll_ite, okAll_guard, okAll_ok, Bool.not_eq_true]
  -- the pairs follow the `if`s of `aEvStart` in source order: get / set, reset / float add / integer load / integer fetch_add
  refine ⟨fun hg _ => .done (specApply_get _ _ (eq_of_beq hg)) fun _ => eq_of_beq hg, fun hg =>
    ⟨fun hs hc => .done (specApply_set _ _ hg hs) fun hk => ?_, fun hs => ⟨fun hf => ?_, fun hf =>
      ⟨fun hk _ => .load (eq_of_beq hk),
       fun hk _ => .done (hf ▸ specApply_int _ hg hs) fun h => by simp [h] at hk⟩⟩⟩⟩
  · -- a store or a swap is not a load
    rw [hk] at hc
    simp at hc
  · -- float: only an add has a first step, its load
    cases floatDelta op with
    | none => exact okAll_error.2 trivial
    | some d =>
      simp only [okAll_guard, okAll_ok]
      exact fun hc => .load (beq_of_and ((Bool.and_eq_true _ _).mp hc).1)

inductive CasOk (float : Bool) (mem : UInt64) (op : String) (cur : UInt64) (e : Ev) : UInt64 × (APc ⊕ String) → Prop
  /-- a success found `cur` in the cell, installs the add applied to it and completes the call -/
  | ok {w : UInt64} (hk : e.k = "C") (hm : mem = cur) (hn : casNew float op mem = some w) :
      CasOk float mem op cur e (w, .inr "")
  /-- a failure reports the cell's value, changes nothing and leaves the thread at `retry` of that value -/
  | fail (hk : e.k = "C") (hok : e.ok = false) (hr : e.res = mem) : CasOk float mem op cur e (mem, .inl (.retry mem))

theorem aEvCas_okAll (float : Bool) (mem : UInt64) (op : String) (cur : UInt64) (e : Ev) :
    OkAll (CasOk float mem op cur e) (aEvCas float mem op cur e) := by
  unfold aEvCas
  cases hn : casNew float op cur with
  | none => exact okAll_error.2 trivial
  | some newv =>
    simp only [okAll_ite, okAll_guard, okAll_ok, Bool.not_eq_true]
    intro hg
    have hk : e.k = "C" := by simp only [Bool.and_eq_true, beq_iff_eq] at hg; exact hg.1.1.1
    refine ⟨fun hok hc => ?_, fun hok hr => .fail hk hok (eq_of_beq hr)⟩
    have hm : mem = cur := beq_of_and hc
    exact .ok hk hm (hm ▸ hn)

theorem aEv_cases {float : Bool} {mem : UInt64} {op : String} {pc : APc} {e : Ev} {r : UInt64 × (APc ⊕ String)}
    (h : aEv float mem op pc e = .ok r) :
    (StartOk float mem op e r ∧ (pc = .start ∨ ∃ cur, pc = .retry cur ∧ e.k = "L")) ∨
    (∃ cur, CasOk float mem op cur e r ∧ (pc = .cas cur ∨ (pc = .retry cur ∧ e.k ≠ "L"))) := by
  unfold aEv at h
  split at h
  · cases h
  · cases pc with
    | start => exact .inl ⟨aEvStart_okAll _ _ _ _ r h, .inl rfl⟩
    | cas cur => exact .inr ⟨cur, aEvCas_okAll _ _ _ _ _ r h, .inl rfl⟩
    | retry cur =>
      simp only at h
      split at h
      · next hk => exact .inl ⟨aEvStart_okAll _ _ _ _ r h, .inr ⟨cur, rfl, by simpa using hk⟩⟩
      · next hk => exact .inr ⟨cur, aEvCas_okAll _ _ _ _ _ r h, .inr ⟨rfl, by simpa using hk⟩⟩

theorem aEv_commit {float : Bool} {mem : UInt64} {op : String} {pc : APc} {e : Ev} {mem' : UInt64} {rv : String}
    (h : aEv float mem op pc e = .ok (mem', .inr rv)) : specApply float mem op = some (mem', rv) := by
  rcases aEv_cases h with ⟨hs, _⟩ | ⟨cur, hc, _⟩
  · cases hs with | done hs _ => exact hs
  · cases hc with | ok _ _ hn => exact casNew_spec hn

theorem aEv_continue {float : Bool} {mem : UInt64} {op : String} {pc : APc} {e : Ev} {mem' : UInt64} {pc' : APc}
    (h : aEv float mem op pc e = .ok (mem', .inl pc')) : mem' = mem := by
  rcases aEv_cases h with ⟨hs, _⟩ | ⟨cur, hc, _⟩
  · cases hs; rfl
  · cases hc; rfl

theorem set_reset_not_torn {float : Bool} {mem : UInt64} {op : String} {e : Ev} {mem' : UInt64} {nx : APc ⊕ String}
    (hg : (opName op == "get") = false) (hs : (opName op == "set" || opName op == "reset") = true)
    (h : aEv float mem op .start e = .ok (mem', nx)) :
    (e.k = "S" ∨ (e.k = "W" ∧ e.res = mem)) ∧ mem' = e.a ∧ nx = .inr "" := by
  suffices H : OkAll (fun r => (e.k = "S" ∨ (e.k = "W" ∧ e.res = mem)) ∧ r.1 = e.a ∧ r.2 = .inr "")
      (aEv float mem op .start e) from H _ h
  unfold aEv aEvStart
  simp only [hg, hs, Bool.false_eq_true, if_false, if_true, okAll_ite, okAll_error, okAll_guard, okAll_ok,
    Bool.and_eq_true, Bool.or_eq_true, beq_iff_eq, and_true, implies_true, true_and]
  exact fun _ ⟨⟨hk, _⟩, ha⟩ => ⟨hk, ha.symm⟩

/-- a local flush of 0: the call performs no shared step, its call mark completes it (the `skip` argument `aItem`
    gives `openCall`) -/
def skipOp (op : String) : Bool := opName op == "lflush" && parseIntArg (opArg op) == 0

inductive AShape (s s' : ASt) : Item → Prop
  /-- an event that completes its call: it takes effect now -/
  | commit (e : Ev) (th : Th APc) (pc : APc) (rv : String) (mem' : UInt64)
      (hth : s.ths[e.tid]? = some th) (hpc : th.pc = some pc)
      (hev : aEv s.float s.mem (th.ops.getD th.idx "") pc e = .ok (mem', .inr rv))
      (hs : s' = { s with mem := mem', ths := s.ths.set e.tid { th with pc := none, retv := some rv },
                          lin := s.lin ++ [⟨e.tid, th.idx, th.ops.getD th.idx "", rv⟩] }) : AShape s s' (.ev e)
  /-- an event after which the call continues (load of an add written as a loop, failed compare-exchange) -/
  | cont (e : Ev) (th : Th APc) (pc pc' : APc)
      (hth : s.ths[e.tid]? = some th) (hpc : th.pc = some pc)
      (hs : s' = { s with ths := s.ths.set e.tid { th with pc := some pc' } }) : AShape s s' (.ev e)
  | callSkip (t : Nat) (i op : String) (th : Th APc) (hth : s.ths[t]? = some th) (hpc : th.pc = none) (hrv : th.retv = none)
      (hsk : skipOp (th.ops.getD th.idx "") = true)
      (hs : s' = { s with ths := s.ths.set t { th with retv := some "" } }) : AShape s s' (.call t i op)
  | callOpen (t : Nat) (i op : String) (th : Th APc) (hth : s.ths[t]? = some th) (hpc : th.pc = none) (hrv : th.retv = none)
      (hsk : skipOp (th.ops.getD th.idx "") = false)
      (hs : s' = { s with ths := s.ths.set t { th with pc := some .start } }) : AShape s s' (.call t i op)
  | ret (t : Nat) (i : String) (th : Th APc) (rv : String) (hth : s.ths[t]? = some th) (hrv : th.retv = some rv)
      (hs : s' = { s with ths := s.ths.set t { th with idx := th.idx + 1, retv := none } }) : AShape s s' (.ret t i rv)

theorem aItem_shape {s s' : ASt} {it : Item} (h : aItem s it = .ok s') : AShape s s' it := by
  cases it with
  | ev e =>
    simp only [aItem, aStep] at h
    split at h
    · cases h
    · next th hth =>
      split at h
      · cases h
      · next pc hpc =>
        split at h
        · cases h
        · next mem' pc' hev =>
          cases h
          have := aEv_continue hev; subst this
          exact .cont e th pc pc' hth hpc rfl
        · next mem' rv hev =>
          cases h
          exact .commit e th pc rv mem' hth hpc hev rfl
  | call t i op =>
    simp only [aItem] at h
    split at h
    · cases h
    · next th hth =>
      split at h
      · next th' ho =>
        cases h
        obtain ⟨hpc, hrv, rfl, rfl⟩ := openCall_okAll _ _ _ _ _ th' ho
        cases hsk : skipOp (th.ops.getD th.idx "")
        · exact .callOpen t i _ th hth hpc hrv hsk (by rw [show (opName _ == "lflush" && _) = false from hsk]; rfl)
        · exact .callSkip t i _ th hth hpc hrv hsk (by rw [show (opName _ == "lflush" && _) = true from hsk]; rfl)
      · cases h
  | ret t i v =>
    simp only [aItem] at h
    split at h
    · cases h
    · next th hth =>
      split at h
      · next th' hc =>
        cases h
        obtain ⟨hrv, rfl⟩ := closeCall_okAll _ _ _ th' hc
        exact .ret t i th v hth hrv rfl
      · cases h
  | other x => simp [aItem] at h

theorem aItem_itemStep {s s' : ASt} {it : Item} (h : aItem s it = .ok s') :
    ItemStep false LinEv.tid LinEv.idx s.ths s'.ths s.lin s'.lin it := by
  cases aItem_shape h with
  | commit e th pc rv mem' hth hpc hev hs =>
    subst hs
    exact ⟨e.tid, th, _, hth, rfl, rfl, .inr ⟨rfl, rfl, .inr ⟨e, _, rfl, rfl, by simp [hpc], rfl, rfl, rfl⟩⟩⟩
  | cont e th pc pc' hth hpc hs => subst hs; exact ⟨e.tid, th, _, hth, rfl, rfl, .inr ⟨rfl, rfl, .inl rfl⟩⟩
  | callSkip t i op th hth hpc hrv hsk hs => subst hs; exact ⟨t, th, _, hth, rfl, rfl, .inr ⟨rfl, by simp [busy], .inl rfl⟩⟩
  | callOpen t i op th hth hpc hrv hsk hs => subst hs; exact ⟨t, th, _, hth, rfl, rfl, .inr ⟨rfl, rfl, .inl rfl⟩⟩
  | ret t i th rv hth hrv hs => subst hs; exact ⟨t, th, _, hth, rfl, rfl, .inl ⟨rfl, .inl rfl⟩⟩

def aReplay : Replay ASt APc LinEv :=
  { item := aItem, ths := (·.ths), lin := (·.lin), tid := (·.tid), idx := (·.idx), sub := false,
    step := aItem_itemStep }

/-- states reachable by accepting items (call marks, atomic events with their results, return
    marks) from the initial state of a program: any number of threads, any schedule, any number of
    spurious compare-exchange failures -/
inductive AReach (s0 : ASt) : ASt → Prop
  | init : AReach s0 s0
  | step {s s' it} : AReach s0 s → aItem s it = .ok s' → AReach s0 s'

def aInit (float counter : Bool) (prog : List (List String)) : ASt :=
  { float := float, counter := counter, ths := prog.map fun ops => { ops := ops } }

theorem aReach_iff_run {s s' : ASt} : AReach s s' ↔ Run aReplay.item s s' :=
  ⟨fun h => by induction h with | init => exact .init | step _ hs ih => exact .step ih hs,
   fun h => by induction h with | init => exact .init | step _ hs ih => exact .step ih hs⟩

theorem aItem_linInv {s s' : ASt} {it : Item} (hi : specRun s.float 0 s.lin = some s.mem) (h : aItem s it = .ok s') :
    specRun s'.float 0 s'.lin = some s'.mem := by
  cases aItem_shape h with
  | commit e th pc rv mem' hth hpc hev hs =>
    subst hs
    simp only [specRun_append, hi, Option.bind_some, specRun, aEv_commit hev, if_true]
  | cont e th pc pc' hth hpc hs => subst hs; exact hi
  | callSkip t i op th hth hpc hrv hsk hs => subst hs; exact hi
  | callOpen t i op th hth hpc hrv hsk hs => subst hs; exact hi
  | ret t i th rv hth hrv hs => subst hs; exact hi

/-- number of commits of call `i` of thread `t` -/
def commits (lin : List LinEv) (t i : Nat) : Nat := (lin.filter fun x => x.tid == t && x.idx == i).length

theorem commits_append (lin : List LinEv) (x : LinEv) (t i : Nat) :
    commits (lin ++ [x]) t i = commits lin t i + (if x.tid = t ∧ x.idx = i then 1 else 0) := by
  simp only [commits, ← List.countP_eq_length_filter, List.countP_append, List.countP_singleton, Bool.and_eq_true,
    beq_iff_eq]

theorem no_entry_of_commits_zero {lin : List LinEv} {t i : Nat} (h : commits lin t i = 0) :
    ∀ e ∈ lin, ¬ (e.tid = t ∧ e.idx = i) := by
  intro e he het
  have hm : e ∈ lin.filter fun x => x.tid == t && x.idx == i :=
    List.mem_filter.2 ⟨he, by simp [het.1, het.2]⟩
  have := List.length_pos_of_mem hm
  unfold commits at h
  omega

/-- how often call `i` of a thread with program `ops` has committed when the thread is at call `idx` and that call is
    complete (`done`) or not. `OnceInv.cnt` below spells this body out (its text is what `exactly_once` states);
    `OnceInv.set` and `aItem_onceInv` pass between the two by unfolding. -/
def onceCount (ops : List String) (idx : Nat) (done : Bool) (i : Nat) : Nat :=
  if i < idx then (if skipOp (ops.getD i "") then 0 else 1)
  else if i = idx ∧ done ∧ skipOp (ops.getD i "") = false then 1 else 0

theorem onceCount_complete {ops : List String} {idx : Nat} (h : skipOp (ops.getD idx "") = false) (i : Nat) :
    onceCount ops idx true i = onceCount ops idx false i + if idx = i then 1 else 0 := by
  unfold onceCount
  rcases Nat.lt_trichotomy i idx with hi | rfl | hi
  · simp [hi, Nat.ne_of_gt hi]
  · simp [h, -List.getD_eq_getElem?_getD]
  · simp [Nat.lt_asymm hi, Nat.ne_of_gt hi, Nat.ne_of_lt hi]

theorem onceCount_skip {ops : List String} {idx : Nat} (h : skipOp (ops.getD idx "") = true) (i : Nat) :
    onceCount ops idx true i = onceCount ops idx false i := by
  unfold onceCount
  rcases Nat.lt_trichotomy i idx with hi | rfl | hi
  · simp [hi]
  · simp [h, -List.getD_eq_getElem?_getD]
  · simp [Nat.lt_asymm hi, Nat.ne_of_gt hi]

theorem onceCount_return (ops : List String) (idx i : Nat) :
    onceCount ops (idx + 1) false i = onceCount ops idx true i := by
  unfold onceCount
  rcases Nat.lt_trichotomy i idx with hi | rfl | hi
  · simp [hi, Nat.lt_succ_of_lt hi]
  · cases skipOp (ops.getD i "") <;> simp
  · simp [Nat.lt_asymm hi, Nat.ne_of_gt hi, Nat.not_lt.2 (Nat.succ_le_of_lt hi)]

/-- **exactly once**: every call that has returned took effect exactly once (a local flush of zero:
    not at all, as in the code), the call in progress at most once — exactly once as soon as its last
    step is done —, and no call that has not started took effect; a call's return value is the one
    recorded with its commit -/
structure OnceInv (s : ASt) : Prop where
  wf : ∀ (t : Nat) (th : Th APc), s.ths[t]? = some th → (th.pc.isSome → th.retv = none ∧ skipOp (th.ops.getD th.idx "") = false)
  cnt : ∀ (t : Nat) (th : Th APc), s.ths[t]? = some th → ∀ i, commits s.lin t i =
      if i < th.idx then (if skipOp (th.ops.getD i "") then 0 else 1)
      else if i = th.idx ∧ th.retv.isSome ∧ skipOp (th.ops.getD i "") = false then 1 else 0
  rvs : ∀ (t : Nat) (th : Th APc) (rv : String), s.ths[t]? = some th → th.retv = some rv → skipOp (th.ops.getD th.idx "") = false →
      (⟨t, th.idx, th.ops.getD th.idx "", rv⟩ : LinEv) ∈ s.lin

/-- the invariant after thread `t0` has been replaced by `th'` and at most one entry, tagged `t0`, has been
    appended: only `t0` has to be looked at -/
theorem OnceInv.set {s s' : ASt} (I : OnceInv s) {t0 : Nat} {th' : Th APc}
    (hths : s'.ths = s.ths.set t0 th') (hlin : s'.lin = s.lin ∨ ∃ x, s'.lin = s.lin ++ [x] ∧ x.tid = t0)
    (wf : th'.pc.isSome → th'.retv = none ∧ skipOp (th'.ops.getD th'.idx "") = false)
    (cnt : ∀ i, commits s'.lin t0 i = onceCount th'.ops th'.idx th'.retv.isSome i)
    (rvs : ∀ rv, th'.retv = some rv → skipOp (th'.ops.getD th'.idx "") = false →
      (⟨t0, th'.idx, th'.ops.getD th'.idx "", rv⟩ : LinEv) ∈ s'.lin) : OnceInv s' := by
  refine ⟨hths ▸ forall_set (fun t x _ => I.wf t x) wf, hths ▸ forall_set (fun t x hne hx i => ?_) cnt,
    fun t x rv hx => (hths ▸ forall_set (P := fun t (x : Th APc) => ∀ rv, x.retv = some rv →
      skipOp (x.ops.getD x.idx "") = false → (⟨t, x.idx, x.ops.getD x.idx "", rv⟩ : LinEv) ∈ s'.lin)
      (fun t x _ hx rv hrv hsk => ?_) rvs) t x hx rv⟩
  · -- an entry tagged `t0` is no commit of another thread
    rw [← I.cnt t x hx i]
    rcases hlin with hl | ⟨y, hl, hy⟩ <;> rw [hl]
    rw [commits_append, if_neg (fun hh => hne (hh.1.symm.trans hy)), Nat.add_zero]
  · rcases hlin with hl | ⟨_, hl, _⟩ <;> rw [hl]
    · exact I.rvs t x rv hx hrv hsk
    · exact List.mem_append_left _ (I.rvs t x rv hx hrv hsk)

theorem aItem_onceInv {s s' : ASt} {it : Item} (I : OnceInv s) (h : aItem s it = .ok s') : OnceInv s' := by
  cases aItem_shape h with
  | commit e th pc rv mem' hth hpc hev hs =>
    subst hs
    have hw := I.wf e.tid th hth (by simp [hpc])
    refine I.set rfl (.inr ⟨_, rfl, rfl⟩) (by simp) (fun i => ?_) (fun rv' hrv _ => ?_)
    · rw [commits_append, I.cnt e.tid th hth i, hw.1]
      simp only [true_and]
      exact (onceCount_complete hw.2 i).symm
    · cases hrv; simp
  | cont e th pc pc' hth hpc hs =>
    subst hs
    have hw := I.wf e.tid th hth (by simp [hpc])
    exact I.set rfl (.inl rfl) (fun _ => hw) (I.cnt e.tid th hth) (fun rv' hrv hsk => I.rvs e.tid th rv' hth hrv hsk)
  | callSkip t0 i op th hth hpc hrv hsk hs =>
    subst hs
    refine I.set rfl (.inl rfl) (by simp [hpc]) (fun i => ?_) (fun rv' _ hsk2 => ?_)
    · have := I.cnt t0 th hth i
      rw [hrv] at this
      exact this.trans (onceCount_skip hsk i).symm
    · rw [hsk] at hsk2; cases hsk2
  | callOpen t0 i op th hth hpc hrv hsk hs =>
    subst hs
    exact I.set rfl (.inl rfl) (fun _ => ⟨hrv, hsk⟩) (I.cnt t0 th hth) (fun rv' hrv' _ => by simp [hrv] at hrv')
  | ret t0 i th rv hth hrv hs =>
    subst hs
    have hpcn : th.pc = none := by
      cases hh : th.pc with
      | none => rfl
      | some pc => have := (I.wf t0 th hth (by simp [hh])).1; rw [this] at hrv; cases hrv
    refine I.set rfl (.inl rfl) (by simp [hpcn]) (fun i => ?_) (fun rv' hrv' _ => by simp at hrv')
    have := I.cnt t0 th hth i
    rw [hrv] at this
    exact this.trans (onceCount_return th.ops th.idx i).symm
end Prom.C01
