import Prom.Lemmas.Replay
/-
The vector machine `Conc.vItem` (C10), analysed once: an accepted event leaves content and commit log alone or
performs ONE operation of the sequential specification and records it (`VEv`, `vStep_okAll`); a mark touches one thread
only. Linearizability (`vItem_trans`) and, through `vReplay`, the real-time theorems of `Lemmas/Replay.lean` rest on
that. At the end the sequential specification: the equations of `VSpec.apply`, its invariant `SpecInv`
(`apply_specInv`), and `reset_empty`, why a `reset` may commit under the read lock.
-/
namespace Prom.C10
open Prom.Conc Prom.RT

/-- run the sequential specification over a commit log, checking every recorded result -/
def specRunV : VSpec → List VLin → Option VSpec
  | s, [] => some s
  | s, l :: r => if (s.apply l.op).2 = l.res then specRunV (s.apply l.op).1 r else none

theorem specRunV_append (s : VSpec) (l : List VLin) (x : VLin) :
    specRunV s (l ++ [x]) = (specRunV s l).bind fun s' => specRunV s' [x] := by
  induction l generalizing s with
  | nil => rfl
  | cons a r ih =>
    simp only [List.cons_append, specRunV]
    split
    · exact ih _
    · rfl

/-- what an accepted item does to the vector's content and the commit log: nothing, or exactly one
    operation of the sequential specification, recorded -/
inductive VTrans (s s' : VSt) : Prop
  | frame (hs : s'.spec = s.spec) (hl : s'.lin = s.lin)
  | eff (t i : Nat) (op : VOp) (hs : s'.spec = (vEff s t i op).1.spec) (hl : s'.lin = (vEff s t i op).1.lin)

theorem vTrans_linInv {s s' : VSt} (hi : specRunV {} s.lin = some s.spec) (h : VTrans s s') :
    specRunV {} s'.lin = some s'.spec := by
  cases h with
  | frame hs hl => rw [hs, hl]; exact hi
  | eff t i op hs hl =>
    rw [hs, hl]
    simp only [vEff, specRunV_append, hi, Option.bind_some, specRunV, if_true]

theorem bindChild_ok {s s1 : VSt} {loc : String} {c : Nat} (h : bindChild s loc c = .ok s1) :
    s1.ths = s.ths ∧ s1.spec = s.spec ∧ s1.lin = s.lin := by
  revert s1 h
  show OkAll _ _
  unfold bindChild
  split <;> simp only [okAll_guard, okAll_ok, and_self, implies_true]

theorem vIncAdd_spec {s s' : VSt} {e : Ev} {th : Th VPc} {c : Nat} (h : vIncAdd s e th c = .ok s') :
    e.k = "A" ∧ ordGe e.ord "Relaxed" = true ∧ e.a = 1 ∧ e.res = s.spec.vals.getD c 0 ∧
    (∃ s1, bindChild s e.loc c = .ok s1) ∧
    s'.spec = (s.spec.apply (.inc c)).1 ∧ s'.lin = s.lin ++ [⟨e.tid, th.idx, .inc c, .unit⟩] ∧
    s'.ths = s.ths.set e.tid { th with pc := none, retv := some "" } := by
  revert s' h
  show OkAll _ _
  unfold vIncAdd
  cases hb : bindChild s e.loc c with
  | error m => simp only [okAll_guard, okAll_error, implies_true]
  | ok s1 =>
    obtain ⟨hths, hs, hl⟩ := bindChild_ok hb
    simp only [okAll_guard, okAll_ok, Bool.and_eq_true, beq_iff_eq, vEff, hths, hs, hl]
    exact fun ⟨⟨hk, ho⟩, ha⟩ hv => ⟨hk, ho, ha, hv, ⟨s1, rfl⟩, trivial, rfl, trivial⟩

theorem vIncLoad_spec {s s' : VSt} {e : Ev} {th : Th VPc} {c : Nat} (h : vIncLoad s e th c = .ok s') :
    e.k = "L" ∧ ordGe e.ord "Relaxed" = true ∧ e.res = s.spec.vals.getD c 0 ∧
    (∃ s1, bindChild s e.loc c = .ok s1) ∧
    s'.spec = s.spec ∧ s'.lin = s.lin ∧
    s'.ths = s.ths.set e.tid { th with pc := some (.incCas c e.res) } := by
  revert s' h
  show OkAll _ _
  unfold vIncLoad
  cases hb : bindChild s e.loc c with
  | error m => simp only [okAll_guard, okAll_error, implies_true]
  | ok s1 =>
    obtain ⟨hths, hs, hl⟩ := bindChild_ok hb
    simp only [okAll_guard, okAll_ok, Bool.and_eq_true, beq_iff_eq, hths, hs, hl]
    exact fun ⟨hk, ho⟩ hv => ⟨hk, ho, hv, ⟨s1, rfl⟩, trivial, trivial, trivial⟩

theorem vIncCas_spec {s s' : VSt} {e : Ev} {th : Th VPc} {c : Nat} {cur : UInt64}
    (h : vIncCas s e th c cur = .ok s') :
    e.k = "C" ∧ ordGe e.ord "Relaxed" = true ∧ e.a = cur ∧ e.b = cur + 1 ∧
    (∃ s1, bindChild s e.loc c = .ok s1) ∧
    ((e.ok = true ∧ s.spec.vals.getD c 0 = cur ∧ e.res = cur ∧
        s'.spec = (s.spec.apply (.inc c)).1 ∧ s'.lin = s.lin ++ [⟨e.tid, th.idx, .inc c, .unit⟩] ∧
        s'.ths = s.ths.set e.tid { th with pc := none, retv := some "" }) ∨
     (e.ok = false ∧ e.res = s.spec.vals.getD c 0 ∧ s'.spec = s.spec ∧ s'.lin = s.lin ∧
        s'.ths = s.ths.set e.tid { th with pc := some (.incRetry c e.res) })) := by
  revert s' h
  show OkAll _ _
  unfold vIncCas
  cases hb : bindChild s e.loc c with
  | error m => simp only [okAll_guard, okAll_error, implies_true]
  | ok s1 =>
    obtain ⟨hths, hs, hl⟩ := bindChild_ok hb
    simp only [okAll_guard, okAll_ite, okAll_ok, Bool.and_eq_true, beq_iff_eq, Bool.not_eq_true, vEff, hths, hs, hl]
    exact fun ⟨⟨⟨hk, ho⟩, ha⟩, hb'⟩ =>
      ⟨fun hok ⟨hv, hr⟩ => ⟨hk, ho, ha, hb', ⟨s1, rfl⟩, .inl ⟨hok, hv, hr, trivial, rfl, trivial⟩⟩,
       fun hok hr => ⟨hk, ho, ha, hb', ⟨s1, rfl⟩, .inr ⟨hok, hr, trivial, trivial, trivial⟩⟩⟩

/-- an accepted event of thread `e.tid`, in call `th.idx`: the thread keeps program and call index and is
    busy afterwards; content and log stay (`frame`), or ONE operation of the specification is performed and recorded
    for this thread and call (`eff`: `vEff`) - the constructor names of `VTrans` -/
inductive VEv (s : VSt) (e : Ev) (th : Th VPc) (s' : VSt) : Prop
  | frame (th' : Th VPc) (h1 : s'.ths = s.ths.set e.tid th') (h2 : th'.ops = th.ops) (h3 : th'.idx = th.idx)
      (h4 : busy th' = true) (h5 : s'.spec = s.spec) (h6 : s'.lin = s.lin)
  | eff (th' : Th VPc) (op : VOp) (h1 : s'.ths = s.ths.set e.tid th') (h2 : th'.ops = th.ops) (h3 : th'.idx = th.idx)
      (h4 : busy th' = true) (h5 : s'.spec = (vEff s e.tid th.idx op).1.spec) (h6 : s'.lin = (vEff s e.tid th.idx op).1.lin)

theorem vIncAdd_okAll {s : VSt} {e : Ev} {th : Th VPc} {c : Nat} : OkAll (VEv s e th) (vIncAdd s e th c) := by
  intro s' h
  obtain ⟨_, _, _, _, _, h1, h2, h3⟩ := vIncAdd_spec h
  exact .eff _ (.inc c) h3 rfl rfl rfl h1 h2

theorem vIncLoad_okAll {s : VSt} {e : Ev} {th : Th VPc} {c : Nat} : OkAll (VEv s e th) (vIncLoad s e th c) := by
  intro s' h
  obtain ⟨_, _, _, _, h1, h2, h3⟩ := vIncLoad_spec h
  exact .frame _ h3 rfl rfl rfl h1 h2

theorem vIncCas_okAll {s : VSt} {e : Ev} {th : Th VPc} {c : Nat} {cur : UInt64} :
    OkAll (VEv s e th) (vIncCas s e th c cur) := by
  intro s' h
  obtain ⟨_, _, _, _, _, ⟨_, _, _, h1, h2, h3⟩ | ⟨_, _, h1, h2, h3⟩⟩ := vIncCas_spec h
  · exact .eff _ (.inc c) h3 rfl rfl rfl h1 h2
  · exact .frame _ h3 rfl rfl rfl h1 h2

theorem vStep_okAll {s : VSt} {e : Ev} :
    OkAll (fun s' => ∃ th, s.ths[e.tid]? = some th ∧ th.pc.isSome = true ∧ VEv s e th s') (vStep s e) := by
  rw [vStep]
  split
  · exact okAll_error.2 trivial
  next th hth =>
  split
  · exact okAll_error.2 trivial
  next pc hpc =>
  refine OkAll.imp (P := VEv s e th) (fun s' H => ⟨th, hth, by simp [hpc], H⟩) ?_
  cases pc with
  | start op =>
    simp only [okAll_ite, okAll_guard, okAll_ok, okAll_error]
    -- the holes follow the `if`s of this arm in source order: with / collect / rm, pre-check / reset, pre-check on an
    -- empty map / on a non-empty map / rm or reset at the write lock (an unknown word is refused: `trivial`)
    refine ⟨fun _ _ _ => ?_, fun _ => ⟨fun _ _ _ => ?_, fun _ => ⟨fun _ _ _ => ?_, fun _ =>
      ⟨fun _ _ _ => ⟨fun _ => ?_, fun _ => ?_⟩, fun _ => ⟨fun _ _ _ => ?_, fun _ => trivial⟩⟩⟩⟩⟩
    · -- with: a hit commits at the read lock, a miss commits nothing yet
      cases s.spec.lookup (opArg op) with
      | some c => exact okAll_ok.2 (.eff _ (.getOrCreate (opArg op)) rfl rfl rfl rfl rfl rfl)
      | none => exact okAll_ok.2 (.frame _ rfl rfl rfl rfl rfl rfl)
    · exact .eff _ .keys rfl rfl rfl rfl rfl rfl
    · -- rm, pre-check: an absent key commits at the read lock
      cases s.spec.lookup (opArg op) with
      | none => exact okAll_ok.2 (.eff _ (.remove (opArg op)) rfl rfl rfl rfl rfl rfl)
      | some c => exact okAll_ok.2 (.frame _ rfl rfl rfl rfl rfl rfl)
    · exact .eff _ .reset rfl rfl rfl rfl rfl rfl
    · exact .frame _ rfl rfl rfl rfl rfl rfl
    · exact .eff _ _ rfl rfl rfl rfl rfl rfl
  | rheld op hit =>
    simp only [okAll_guard]
    intro _
    cases hit with
    | none => exact okAll_ok.2 (.frame _ rfl rfl rfl rfl rfl rfl)
    | some c => exact okAll_ok.2 (.frame _ rfl rfl rfl rfl rfl rfl)
  | needW op =>
    simp only [okAll_guard]
    intro _ _
    split
    · exact okAll_ok.2 (.eff _ (.getOrCreate (opArg op)) rfl rfl rfl rfl rfl rfl)
    · exact okAll_error.2 trivial
  | wheld op res =>
    simp only [okAll_guard, okAll_ok]
    exact fun _ => .frame _ rfl rfl rfl rfl rfl rfl
  | incChild c =>
    simp only [okAll_ite]
    exact ⟨fun _ => vIncLoad_okAll, fun _ => vIncAdd_okAll⟩
  | incCas c cur => exact vIncCas_okAll
  | incRetry c cur =>
    simp only [okAll_ite]
    exact ⟨fun _ => vIncLoad_okAll, fun _ => vIncCas_okAll⟩
  | collecting ks reads =>
    simp only [okAll_ite, okAll_guard, okAll_ok]
    refine ⟨fun _ _ => .frame _ rfl rfl rfl rfl rfl rfl, fun _ _ _ => ?_⟩
    split
    · exact okAll_error.2 trivial
    · exact okAll_ok.2 (.frame _ rfl rfl rfl rfl rfl rfl)
  | rmRheld op done =>
    simp only [okAll_guard]
    intro _
    cases done with
    | none => exact okAll_ok.2 (.frame _ rfl rfl rfl rfl rfl rfl)
    | some rv => exact okAll_ok.2 (.frame _ rfl rfl rfl rfl rfl rfl)
  | rmNeedW op =>
    simp only [okAll_guard, okAll_ok]
    exact fun _ _ => .eff _ _ rfl rfl rfl rfl rfl rfl

theorem vItem_call {s s' : VSt} {t : Nat} {i op : String} (h : vItem s (.call t i op) = .ok s') :
    ∃ th th', s.ths[t]? = some th ∧ s' = { s with ths := s.ths.set t th' } ∧
      th'.ops = th.ops ∧ th'.idx = th.idx ∧ busy th' = true := by
  revert s' h
  show OkAll _ _
  simp only [vItem]
  cases hth : s.ths[t]? with
  | none => exact okAll_error.2 trivial
  | some th =>
    -- every way of opening the call goes through `openCall`, except the `inc` sub-call
    have opened : ∀ (mk : String → Option VPc) (skip : String → Bool), (skip op = false → (mk op).isSome = true) →
        OkAll (fun s' => ∃ th0 th', some th = some th0 ∧ s' = { s with ths := s.ths.set t th' } ∧
          th'.ops = th0.ops ∧ th'.idx = th0.idx ∧ busy th' = true)
          (match openCall th i op mk skip with
            | .ok th' => .ok { s with ths := s.ths.set t th' }
            | .error e => .error e) := fun mk skip hmk => by
      cases ho : openCall th i op mk skip with
      | error m => exact okAll_error.2 trivial
      | ok th' => exact okAll_ok.2 ⟨th, th', rfl, rfl, openCall_busy hmk (openCall_okAll _ _ _ _ _ _ ho).2.2.2⟩
    simp only [okAll_ite, okAll_error, implies_true, true_and]
    refine ⟨fun _ => ?_, fun _ => ⟨fun _ _ => ?_, fun _ => opened _ _ fun _ => rfl⟩⟩
    · split
      · exact opened _ _ fun _ => rfl
      · exact opened _ _ fun h => by cases h
    · split
      · exact okAll_ok.2 ⟨th, _, rfl, rfl, rfl, rfl, rfl⟩
      · exact okAll_error.2 trivial

/-- an accepted return mark changes its thread only: the program stays, the call index advances by one
    (return of a call of the program) or stays (return of an `inc` sub-call) -/
theorem vItem_ret {s s' : VSt} {t : Nat} {i v : String} (h : vItem s (.ret t i v) = .ok s') :
    ∃ th th', s.ths[t]? = some th ∧ s' = { s with ths := s.ths.set t th' } ∧
      th'.ops = th.ops ∧ (th'.idx = th.idx + 1 ∨ th'.idx = th.idx) := by
  simp only [vItem] at h
  split at h
  · cases h
  · next th hth =>
    split at h
    · split at h
      · cases h; exact ⟨th, _, hth, rfl, rfl, .inr rfl⟩
      · cases h
    · split at h
      · next th' hc =>
        cases h
        obtain ⟨_, rfl⟩ := closeCall_okAll _ _ _ th' hc
        exact ⟨th, _, hth, rfl, rfl, .inl rfl⟩
      · cases h

theorem vItem_trans {s s' : VSt} {it : Item} (h : vItem s it = .ok s') : VTrans s s' := by
  cases it with
  | ev e =>
    obtain ⟨th, _, _, hv⟩ := vStep_okAll _ h
    cases hv with
    | frame _ _ _ _ _ hs hl => exact .frame hs hl
    | eff _ op _ _ _ _ hs hl => exact .eff e.tid th.idx op hs hl
  | call t i op => obtain ⟨_, _, _, rfl, _⟩ := vItem_call h; exact .frame rfl rfl
  | ret t i v => obtain ⟨_, _, _, rfl, _⟩ := vItem_ret h; exact .frame rfl rfl
  | other x => simp [vItem] at h

theorem vItem_itemStep {s s' : VSt} {it : Item} (h : vItem s it = .ok s') :
    ItemStep true VLin.tid VLin.idx s.ths s'.ths s.lin s'.lin it := by
  cases it with
  | ev e =>
    obtain ⟨th, hth, hp, hv⟩ := vStep_okAll _ h
    cases hv with
    | frame th' hs hops hidx hb _ hl => exact ⟨e.tid, th, th', hth, hs, hops, .inr ⟨hidx, hb, .inl hl⟩⟩
    | eff th' op hs hops hidx hb _ hl =>
      exact ⟨e.tid, th, th', hth, hs, hops, .inr ⟨hidx, hb, .inr ⟨e, _, rfl, rfl, hp, hl, rfl, rfl⟩⟩⟩
  | call t i op =>
    obtain ⟨th, th', hth, rfl, hops, hidx, hb⟩ := vItem_call h
    exact ⟨t, th, th', hth, rfl, hops, .inr ⟨hidx, hb, .inl rfl⟩⟩
  | ret t i v =>
    obtain ⟨th, th', hth, rfl, hops, hidx⟩ := vItem_ret h
    exact ⟨t, th, th', hth, rfl, hops, .inl ⟨rfl, hidx.imp id (⟨rfl, ·⟩)⟩⟩
  | other x => simp [vItem] at h

def vReplay : Replay VSt VPc VLin :=
  { item := vItem, ths := (·.ths), lin := (·.lin), tid := (·.tid), idx := (·.idx), sub := true,
    step := vItem_itemStep }

def SpecInv (s : VSpec) : Prop :=
  (s.map.map (·.1)).Nodup ∧ ∀ p ∈ s.map, p.2 < s.vals.length

theorem apply_getOrCreate_hit {s : VSpec} {k : String} {c : Nat} (h : s.lookup k = some c) :
    s.apply (.getOrCreate k) = (s, .child c) := by
  simp only [VSpec.apply, h]

theorem apply_getOrCreate_miss {s : VSpec} {k : String} (h : s.lookup k = none) :
    s.apply (.getOrCreate k) =
      ({ map := s.map ++ [(k, s.vals.length)], vals := s.vals ++ [0] }, .child s.vals.length) := by
  simp only [VSpec.apply, h]

theorem apply_remove_hit {s : VSpec} {k : String} {c : Nat} (h : s.lookup k = some c) :
    s.apply (.remove k) = ({ s with map := s.map.filter (·.1 != k) }, .ok) := by
  simp only [VSpec.apply, h]

theorem apply_remove_miss {s : VSpec} {k : String} (h : s.lookup k = none) : s.apply (.remove k) = (s, .err) := by
  simp only [VSpec.apply, h]

theorem apply_specInv (s : VSpec) (op : VOp) (hi : SpecInv s) : SpecInv (s.apply op).1 := by
  obtain ⟨h1, h2⟩ := hi
  cases op with
  | getOrCreate k =>
    cases hl : s.lookup k with
    | some c => rw [apply_getOrCreate_hit hl]; exact ⟨h1, h2⟩
    | none =>
      rw [apply_getOrCreate_miss hl]
      refine ⟨nodup_map_concat h1 (alook_eq_none.1 hl), fun p hp => ?_⟩
      simp only [List.length_append, List.length_cons, List.length_nil]
      rcases List.mem_append.1 hp with hp | hp
      · have := h2 p hp; omega
      · simp at hp; subst hp; simp
  | remove k =>
    cases hl : s.lookup k with
    | some c =>
      rw [apply_remove_hit hl]
      exact ⟨List.Nodup.sublist (List.Sublist.map _ List.filter_sublist) h1, fun p hp => h2 p (List.mem_filter.1 hp).1⟩
    | none => rw [apply_remove_miss hl]; exact ⟨h1, h2⟩
  | reset => exact ⟨by simp [VSpec.apply], by simp [VSpec.apply]⟩
  | keys => exact ⟨h1, h2⟩
  | inc c => exact ⟨h1, by simpa [VSpec.apply] using h2⟩
  | read c => exact ⟨h1, h2⟩

/-- resetting a vector that has no children changes nothing (and returns the usual unit result): this
    is why a `reset` may commit under the READ lock when it sees an empty map -/
theorem reset_empty (s : VSpec) (h : s.map.isEmpty = true) : s.apply .reset = (s, .unit) := by
  obtain ⟨m, v⟩ := s
  simp only [List.isEmpty_iff] at h
  subst h
  rfl

end Prom.C10
