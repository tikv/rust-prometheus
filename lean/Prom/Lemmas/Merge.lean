import Prom.Model.Registry
import Prom.Lemmas.Sort
import Prom.Lemmas.ListAux
/-
The merge phase of `gather` (C07, C09, C14): `gatherFams` is `merged` followed family by family by `finish`
(`gatherFams_eq`), and `merged` is a finite map keyed by the family name, the `BTreeMap` of `gather`: on a
name-sorted list `famInsert` is insert-or-append (`famGet_famInsert`), so under `n` stands the FIRST collected family
named `n` that has samples, holding ALL samples collected under `n` (`famGet_merged`). The rest is read off from
that: `mem_merged_iff`, `merged_attrs`, `samplesOf_merged`, and `merged_map_perm` for what does not depend on the order.
-/
namespace Prom

/-- all samples filed under name `n`, in any list of families (the collected ones, the merged ones) -/
def samplesOf (n : Str) (l : List Family) : List Sample := (l.filter (·.name == n)).flatMap (·.samples)

theorem samplesOf_cons (n : Str) (g : Family) (r : List Family) :
    samplesOf n (g :: r) = (if g.name == n then g.samples else []) ++ samplesOf n r := by
  unfold samplesOf
  by_cases h : (g.name == n) = true <;> simp [h]

theorem samplesOf_append (n : Str) (c : List Family) (f : Family) :
    samplesOf n (c ++ [f]) = samplesOf n c ++ if f.name == n then f.samples else [] := by
  unfold samplesOf
  by_cases h : (f.name == n) = true <;> simp [List.filter_append, h]

theorem mem_samplesOf {n : Str} {c : List Family} {s : Sample} :
    s ∈ samplesOf n c ↔ ∃ f ∈ c, f.name = n ∧ s ∈ f.samples := by
  simp [samplesOf, List.mem_flatMap, List.mem_filter, and_assoc]

theorem samplesOf_perm (n : Str) {c c' : List Family} (hp : c.Perm c') : (samplesOf n c).Perm (samplesOf n c') :=
  List.Perm.flatMap_right _ (hp.filter _)

end Prom

namespace Prom.C07

/-- the merge phase of `gather` (before sorting / prefixing) -/
def merged (collected : List Family) : List Family :=
  collected.foldl (fun acc f => if f.samples.isEmpty then acc else famInsert f acc) []

/-- what `gather` makes of one merged family: the prefix on its name, its samples sorted, the common
    labels appended to each -/
def finish (pref : Option Str) (labels : Option (List (Str × Str))) (g : Family) : Family :=
  { g with name := applyPrefix pref g.name,
           samples := (stableSortBy sampleLe g.samples).map fun s =>
             { s with labels := s.labels ++ commonPairs labels } }

theorem gatherFams_eq (pref : Option Str) (labels : Option (List (Str × Str))) (c : List Family) :
    gatherFams pref labels c = (merged c).map (finish pref labels) := rfl

/-- the family filed under `n` -/
def famGet (n : Str) (l : List Family) : Option Family := l.find? (·.name == n)

/-- the first collected family named `n` that has samples -/
def firstOf (n : Str) (c : List Family) : Option Family := c.find? fun f => !f.samples.isEmpty && f.name == n

abbrev Sorted (l : List Family) : Prop := (l.map (·.name)).Pairwise (· < ·)

theorem famInsert_names (f : Family) (l : List Family) :
    (famInsert f l).map (·.name) ⊆ f.name :: l.map (·.name) := by
  fun_induction famInsert f l with
  | case1 => exact List.Subset.refl _
  | case2 g r _ => exact List.subset_cons_self ..
  | case3 g r _ _ => exact List.Subset.refl _
  | case4 g r _ _ ih =>
    exact List.cons_subset.2 ⟨by simp, ih.trans (List.cons_subset_cons _ (List.subset_cons_self ..))⟩

theorem famInsert_sorted (f : Family) (l : List Family) (h : Sorted l) : Sorted (famInsert f l) := by
  fun_induction famInsert f l with
  | case1 => exact List.pairwise_singleton ..
  | case2 g r _ => exact h
  | case3 g r _ hlt =>
    have hlt : f.name < g.name := (strLt_iff _ _).1 hlt
    refine List.pairwise_cons.2 ⟨List.forall_mem_cons.2 ⟨hlt, fun x hx => ?_⟩, h⟩
    exact List.lt_trans hlt ((List.pairwise_cons.1 h).1 x hx)
  | case4 g r hne hlt ih =>
    obtain ⟨hg, hr⟩ := List.pairwise_cons.1 h
    have hgf : g.name < f.name :=
      Std.lt_of_le_of_ne (List.not_lt.1 fun h' => hlt ((strLt_iff _ _).2 h')) (by simpa using hne)
    refine List.pairwise_cons.2 ⟨fun x hx => ?_, ih hr⟩
    rcases List.mem_cons.1 (famInsert_names f r hx) with rfl | hx
    · exact hgf
    · exact hg x hx

theorem famGet_cons (n : Str) (g : Family) (r : List Family) :
    famGet n (g :: r) = if g.name = n then some g else famGet n r := by
  unfold famGet
  rw [List.find?_cons]
  by_cases h : g.name = n
  · rw [if_pos h, beq_iff_eq.2 h]
  · rw [if_neg h, beq_eq_false_iff_ne.2 h]

theorem famGet_eq_none_of_lt {n : Str} {l : List Family} (h : ∀ x ∈ l.map (·.name), n < x) : famGet n l = none := by
  rw [famGet, List.find?_eq_none]
  intro g hg hn
  have := h g.name (List.mem_map.2 ⟨g, hg, rfl⟩)
  rw [beq_iff_eq.1 hn] at this
  exact List.lt_irrefl _ this

theorem famGet_famInsert (f : Family) (n : Str) (l : List Family) (hs : Sorted l) :
    famGet n (famInsert f l) =
      if f.name = n then some (match famGet n l with
        | some g => { g with samples := g.samples ++ f.samples }
        | none => f)
      else famGet n l := by
  fun_induction famInsert f l with
  | case1 => exact famGet_cons n f []
  | case2 g r hgf =>
    have hgf : g.name = f.name := beq_iff_eq.1 hgf
    rw [famGet_cons, famGet_cons]
    by_cases e : f.name = n
    · rw [if_pos (hgf.trans e), if_pos e, if_pos (hgf.trans e)]
    · rw [if_neg (fun h => e (hgf.symm.trans h)), if_neg e, if_neg (fun h => e (hgf.symm.trans h))]
  | case3 g r _ hlt =>
    -- filed before the head: every family of the list has a greater name
    have hlt : f.name < g.name := (strLt_iff _ _).1 hlt
    rw [famGet_cons]
    by_cases e : f.name = n
    · have hnone : famGet n (g :: r) = none := famGet_eq_none_of_lt <| e ▸
        List.forall_mem_cons.2 ⟨hlt, fun x hx => List.lt_trans hlt ((List.pairwise_cons.1 hs).1 x hx)⟩
      rw [if_pos e, if_pos e, hnone]
    · rw [if_neg e, if_neg e]
  | case4 g r hgf _ ih =>
    rw [famGet_cons, famGet_cons, ih (List.pairwise_cons.1 hs).2]
    by_cases hgn : g.name = n
    · have : ¬ f.name = n := fun e => hgf (beq_iff_eq.2 (hgn.trans e.symm))
      rw [if_pos hgn, if_neg this, if_pos hgn]
    · rw [if_neg hgn, if_neg hgn]

theorem firstOf_append (n : Str) (c : List Family) (f : Family) :
    firstOf n (c ++ [f]) = (firstOf n c).or (if (!f.samples.isEmpty && f.name == n) = true then some f else none) := by
  unfold firstOf
  rw [List.find?_append, List.find?_cons]
  cases (!f.samples.isEmpty && f.name == n) <;> rfl

theorem samplesOf_of_firstOf_none {n : Str} {c : List Family} (h : firstOf n c = none) : samplesOf n c = [] := by
  unfold samplesOf
  rw [List.flatMap_eq_nil_iff]
  intro f hf
  obtain ⟨hfc, hn⟩ := List.mem_filter.1 hf
  have := List.find?_eq_none.1 h f hfc
  simpa [hn] using this

theorem famGet_merged (c : List Family) :
    Sorted (merged c) ∧
    ∀ n, famGet n (merged c) = (firstOf n c).map fun f => { f with samples := samplesOf n c } := by
  refine foldl_prefix_invariant (fun acc f => if f.samples.isEmpty then acc else famInsert f acc)
    (fun c acc => Sorted acc ∧ ∀ n, famGet n acc = (firstOf n c).map fun f => { f with samples := samplesOf n c })
    ?_ c [] [] ⟨List.Pairwise.nil, fun n => rfl⟩
  rintro pre f acc ⟨hs, hget⟩
  by_cases he : f.samples = []
  · -- a family without samples changes nothing
    refine ⟨by simpa [he] using hs, fun n => ?_⟩
    simp [he, hget, firstOf_append, samplesOf_append]
  · have he' : f.samples.isEmpty = false := by simpa using he
    simp only [he', Bool.false_eq_true, if_false]
    refine ⟨famInsert_sorted f acc hs, fun n => ?_⟩
    rw [famGet_famInsert f n acc hs, hget, firstOf_append, samplesOf_append]
    by_cases e : f.name = n
    · cases hf : firstOf n pre with
      | some f0 => simp [e, he]
      | none => subst e; simp [he, samplesOf_of_firstOf_none hf]
    · simp [e]

theorem mem_iff_famGet {l : List Family} (hs : Sorted l) (g : Family) : g ∈ l ↔ famGet g.name l = some g :=
  ⟨find?_key_of_nodup Family.name (nodup_of_lt hs), List.mem_of_find?_eq_some⟩

theorem firstOf_eq_some {n : Str} {c : List Family} {f : Family} (h : firstOf n c = some f) :
    f ∈ c ∧ f.samples ≠ [] ∧ f.name = n := by
  have := List.find?_some h
  simp only [Bool.and_eq_true, Bool.not_eq_true', List.isEmpty_eq_false_iff, beq_iff_eq] at this
  exact ⟨List.mem_of_find?_eq_some h, this⟩

theorem exists_firstOf_iff (n : Str) (c : List Family) :
    (∃ f, firstOf n c = some f) ↔ ∃ f ∈ c, f.samples ≠ [] ∧ f.name = n := by
  rw [← Option.isSome_iff_exists, firstOf, List.find?_isSome]
  simp only [Bool.and_eq_true, Bool.not_eq_true', List.isEmpty_eq_false_iff, beq_iff_eq]

theorem mem_merged_iff (c : List Family) (g : Family) :
    g ∈ merged c ↔ ∃ f, firstOf g.name c = some f ∧ g = { f with samples := samplesOf g.name c } := by
  rw [mem_iff_famGet (famGet_merged c).1, (famGet_merged c).2, Option.map_eq_some_iff]
  exact exists_congr fun f => and_congr_right fun _ => eq_comm

theorem merged_attrs (c : List Family) :
    ∀ g ∈ merged c, ∃ f ∈ c, f.samples ≠ [] ∧ f.name = g.name ∧ f.help = g.help ∧ f.ty = g.ty := by
  intro g hg
  obtain ⟨f, hf, hgf⟩ := (mem_merged_iff c g).1 hg
  obtain ⟨h1, h2, h3⟩ := firstOf_eq_some hf
  exact ⟨f, h1, h2, h3, by rw [hgf], by rw [hgf]⟩

theorem merged_samples (c : List Family) : ∀ g ∈ merged c, g.samples = samplesOf g.name c := by
  intro g hg
  obtain ⟨f, _, hgf⟩ := (mem_merged_iff c g).1 hg
  exact congrArg Family.samples hgf

theorem merged_names_iff (c : List Family) (x : Str) :
    x ∈ (merged c).map (·.name) ↔ ∃ f ∈ c, f.samples ≠ [] ∧ f.name = x := by
  rw [← exists_firstOf_iff, List.mem_map]
  constructor
  · rintro ⟨g, hg, rfl⟩
    obtain ⟨f, hf, _⟩ := (mem_merged_iff c g).1 hg
    exact ⟨f, hf⟩
  · rintro ⟨f, hf⟩
    exact ⟨{ f with samples := samplesOf x c, name := x }, (mem_merged_iff c _).2 ⟨f, hf, by rw [(firstOf_eq_some hf).2.2]⟩, rfl⟩

theorem merged_sample_origin (c : List Family) (g : Family) (hg : g ∈ merged c) (s : Sample)
    (hs : s ∈ g.samples) : ∃ f ∈ c, f.name = g.name ∧ s ∈ f.samples :=
  mem_samplesOf.1 (merged_samples c g hg ▸ hs)

theorem samplesOf_eq_famGet {l : List Family} (hs : Sorted l) (n : Str) :
    samplesOf n l = match famGet n l with | some g => g.samples | none => [] := by
  induction l with
  | nil => rfl
  | cons a r ih =>
    have hs' := List.pairwise_cons.1 hs
    rw [samplesOf_cons, famGet_cons, ih hs'.2]
    by_cases e : a.name = n
    · rw [if_pos (beq_iff_eq.2 e), if_pos e, famGet_eq_none_of_lt (e ▸ hs'.1)]
      simp
    · rw [if_neg (by simpa using e), if_neg e, List.nil_append]

theorem samplesOf_merged (n : Str) (c : List Family) : samplesOf n (merged c) = samplesOf n c := by
  rw [samplesOf_eq_famGet (famGet_merged c).1, (famGet_merged c).2]
  cases h : firstOf n c with
  | some f => rfl
  | none => exact (samplesOf_of_firstOf_none h).symm

/-- the merge phase passes over the families without samples: what `C14.empty_families_invisible` says of `gather` -/
theorem merged_filter_nonempty (collected : List Family) :
    merged collected = merged (collected.filter fun f => !f.samples.isEmpty) := by
  unfold merged
  rw [List.foldl_filter]
  exact congrArg (fun step => collected.foldl step []) (funext fun acc => funext fun f => by cases f.samples.isEmpty <;> rfl)

theorem map_eq_of_keys_eq {α κ β : Type} (key : α → κ) (F : α → β) : ∀ (L L' : List α), L.map key = L'.map key →
    (∀ g ∈ L, ∀ g' ∈ L', key g = key g' → F g = F g') → L.map F = L'.map F := by
  intro L
  induction L with
  | nil => intro L' h _; cases L' with | nil => rfl | cons a t => simp at h
  | cons g r ih =>
    intro L' h hF
    cases L' with
    | nil => simp at h
    | cons g' r' =>
      simp only [List.map_cons, List.cons.injEq] at h ⊢
      exact ⟨hF g (by simp) g' (by simp) h.1, ih r' h.2 (fun a ha b hb e => hF a (by simp [ha]) b (by simp [hb]) e)⟩

theorem merged_map_perm {β : Type} (F : Family → β) {c c' : List Family} (hp : c.Perm c')
    (hF : ∀ g ∈ merged c, ∀ g' ∈ merged c', g.name = g'.name → F g = F g') :
    (merged c).map F = (merged c').map F := by
  -- both lists are strictly sorted by name and have the same names, hence the same names in the same order
  refine map_eq_of_keys_eq Family.name F _ _
    (strict_sorted_ext _ _ (famGet_merged c).1 (famGet_merged c').1 fun x => ?_) hF
  simp only [merged_names_iff, hp.mem_iff]

theorem fold_attrs (c : List Family) : ∀ (acc : List Family),
    (∀ g ∈ acc, ∃ f ∈ c, f.samples ≠ [] ∧ f.name = g.name ∧ f.help = g.help ∧ f.ty = g.ty) → True := fun _ _ => trivial

end Prom.C07
