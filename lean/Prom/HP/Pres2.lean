import Prom.HP.Pres
/-
Preservation of `Inv`, part 2: a collector's steps from its flip to its unlock. The acting task is the only
active one (`Inv.splice` disposes of the others), so each step is one implication between the phase invariants
`Normal → SpinInv → MoveInv → … → MoveInv → Normal`, stated for the state with the task list left alone (the
task list enters a phase invariant only through `pendW` / `pend`, which a collector task does not change:
`phase_congr`).
-/
namespace Hp

theorem Normal.flip {k : Nat} {s : St} (htw : ∀ t ∈ s.tasks, TaskWf k t) (h : Normal s) :
    SpinInv { s with hot := !s.hot } s.hot s.n s.claimed := by
  obtain ⟨⟨q1, q2, q3, q4⟩, e, hn, c1, c2⟩ := h
  have hz := pend_zero_of_pendW_zero htw q2
  refine ⟨⟨rfl, hn, ?_, c1, c2, ?_, ?_⟩, e, ?_, ?_⟩
  · show s.n = _; simp only [q1, totW_nil]; exact hn
  · show totW s.claimed = _; simp only [q1, totW_nil]; exact c1
  · show ∀ c, tot s.claimed c = _; simp only [q1, tot_nil, Int.add_zero]; exact c2
  · show (s.sh (!s.hot)).count + pendW (!s.hot) s.tasks = totW (s.asg (!s.hot)); simp only [q1, q2, q3, totW_nil]
  · show ∀ c, (s.sh (!s.hot)).cell c + pend (!s.hot) c s.tasks = tot (s.asg (!s.hot)) c
    simp only [q1, q4, hz, tot_nil, Int.add_zero, implies_true]

/-- the spin succeeds: the cold count equals everything assigned to the cold shard, so nothing is pending on
    it and it is complete and frozen -/
theorem SpinInv.spinOk {k : Nat} {s : St} {cold : Bool} {ov : Nat} {S : List Obs}
    (htw : ∀ t ∈ s.tasks, TaskWf k t) (haw : ∀ o ∈ s.asg cold, WfUpd k o.upd)
    (hz : ∀ c, k < c → (s.sh cold).cell c = 0) (h : SpinInv s cold ov S) (hc : (s.sh cold).count = ov) :
    MoveInv k { s with sh := modSh s.sh cold (fun x => { x with count := 0 }) } cold ov (prog k) (fun _ => 0) S := by
  obtain ⟨fr, ⟨a1, a2⟩, b1, b2⟩ := h
  have hpw : pendW cold s.tasks = 0 := by have ⟨_, f1, _⟩ := fr; omega
  have hpz := pend_zero_of_pendW_zero htw hpw
  refine ⟨fr, hpw, ?_, wf_prog k, fun _ _ => rfl, ?_, ?_, ?_, ?_⟩
  · show (modSh s.sh cold _ cold).count = 0; rw [modSh_same]
  · intro c _
    show (modSh s.sh cold _ cold).cell c = _
    rw [modSh_same, ← a2 c, hpz c, Int.add_zero]
  · intro c hc'
    have hkc : k < c := by rw [swap_mem_prog] at hc'; omega
    show (modSh s.sh cold _ cold).cell c = 0 ∧ _
    rw [modSh_same]
    exact ⟨hz c hkc, (tot_zero_of_wf haw hkc).symm⟩
  · intro c
    show (modSh s.sh cold _ (!cold)).cell c + _ = _
    rw [modSh_not, b2 c]
    by_cases hkc : c ≤ k
    · simp [swap_mem_prog, hkc]
    · simp [tot_zero_of_wf haw (Nat.lt_of_not_le hkc)]
  · show (modSh s.sh cold _ (!cold)).count + _ = _
    rw [modSh_not, b1, if_neg (fun h => h addCount_mem_prog), Nat.add_zero]

theorem MoveInv.swap {k : Nat} {s : St} {cold : Bool} {ov c : Nat} {l1 l2 : List CStep} {taken : Cells}
    {S : List Obs} (hz : ∀ c, k < c → (s.sh cold).cell c = 0)
    (h : MoveInv k s cold ov (l1 ++ CStep.swap c :: l2) taken S) :
    MoveInv k { s with sh := modSh s.sh cold (fun x => { x with cell := setCell x.cell c 0 }) } cold ov
      (l1 ++ l2) (setCell taken c ((s.sh cold).cell c)) S := by
  obtain ⟨fr, m1, m2, m3, m4, m5, m6, m7, m8⟩ := h
  obtain ⟨w1, w2, w3⟩ := m3.remove_swap
  simp only [mem_middle, CStep.swap.injEq, reduceCtorEq, false_or] at m5 m6 m7 m8
  refine ⟨fr, m1, by simpa only [modSh_same] using m2, w3, ?_, ?_, ?_, ?_, by simpa only [modSh_not] using m8⟩
  · intro c' hc'
    by_cases e : c' = c
    · rw [e, setCell_same]; exact hz c (e ▸ hc')
    · rw [setCell_other _ _ e]; exact m4 c' hc'
  · intro c' hc'
    have e : c' ≠ c := fun e => w2 (e ▸ hc')
    simp only [modSh_same, setCell_other _ _ e]
    exact m5 c' (.inr hc')
  · intro c' hc'
    by_cases e : c' = c
    · subst e; simp only [modSh_same, setCell_same, true_and]; exact m5 c' (.inl rfl)
    · simp only [modSh_same, setCell_other _ _ e]; exact m6 c' (fun h => h.elim e hc')
  · intro c'
    simp only [modSh_not]
    rw [m7 c']
    by_cases e : c' = c
    · subst e; simp [w1]
    · simp [e]

theorem MoveInv.addHot {k : Nat} {s : St} {cold : Bool} {ov c : Nat} {l1 l2 : List CStep} {taken : Cells}
    {S : List Obs} (h : MoveInv k s cold ov (l1 ++ CStep.addHot c :: l2) taken S)
    (hs : CStep.swap c ∉ l1 ++ l2) :
    MoveInv k { s with sh := modSh s.sh (!cold) (fun x => { x with cell := setCell x.cell c (x.cell c + taken c) }) }
      cold ov (l1 ++ l2) taken S := by
  obtain ⟨fr, m1, m2, m3, m4, m5, m6, m7, m8⟩ := h
  obtain ⟨w2, w3⟩ := m3.remove_addHot hs
  simp only [mem_middle, CStep.addHot.injEq, reduceCtorEq, false_or] at m5 m6 m7 m8
  refine ⟨fr, m1, by simpa only [modSh_not'] using m2, w3, m4, by simpa only [modSh_not'] using m5,
    by simpa only [modSh_not'] using m6, ?_, by simpa only [modSh_same] using m8⟩
  intro c'
  have := m7 c'
  simp only [modSh_same, setCell_add]
  by_cases e : c' = c
  · subst e; simp [hs, w2, (m6 c' hs).2] at this ⊢; omega
  · simp [e, Ne.symm e] at this ⊢; exact this

theorem MoveInv.addCount {k : Nat} {s : St} {cold : Bool} {ov : Nat} {l1 l2 : List CStep} {taken : Cells}
    {S : List Obs} (h : MoveInv k s cold ov (l1 ++ CStep.addCount :: l2) taken S) :
    MoveInv k { s with sh := modSh s.sh (!cold) (fun x => { x with count := x.count + ov }) } cold ov
      (l1 ++ l2) taken S := by
  obtain ⟨fr, m1, m2, m3, m4, m5, m6, m7, m8⟩ := h
  obtain ⟨w2, w3⟩ := m3.remove_addCount
  simp only [mem_middle, reduceCtorEq, false_or, true_or, not_true, if_false, Nat.add_zero] at m5 m6 m7 m8
  refine ⟨fr, m1, by simpa only [modSh_not'] using m2, w3, m4, by simpa only [modSh_not'] using m5,
    by simpa only [modSh_not'] using m6, by simpa only [modSh_same] using m7, ?_⟩
  simp only [modSh_same, if_pos w2]
  omega

theorem MoveInv.unlock {k : Nat} {s : St} {cold : Bool} {ov : Nat} {taken : Cells} {S : List Obs}
    (h : MoveInv k s cold ov [CStep.unlock] taken S) :
    Normal { s with asg := fun b => if b = cold then [] else s.asg (!cold) ++ s.asg cold } ∧
    ov = totW S ∧ ∀ c, taken c = tot S c := by
  obtain ⟨⟨hh, f1, f2, f3, f4, f5, f6⟩, m1, m2, m3, m4, m5, m6, m7, m8⟩ := h
  simp only [List.mem_singleton, reduceCtorEq, not_false_eq_true, and_self, if_true, forall_const] at m6 m7 m8
  refine ⟨?_, f1.trans f3.symm, fun c => by rw [(m6 c).2, f4 c]⟩
  simp only [Normal, Quiet, EqN, hh, Bool.not_not, if_true, Bool.not_eq_self, if_false, totW_append, tot_append]
  exact ⟨⟨trivial, m1, m2, fun c => (m6 c).1⟩, ⟨by rw [m8, f1], m7⟩, by rw [f2, Nat.add_comm],
    by rw [f5, Nat.add_comm], fun c => by rw [f6 c, Int.add_comm]⟩

theorem weightless_of_active {t : Task} (h : active t = 1) (b : Bool) : tw b t = 0 ∧ ∀ c, tc b c t = 0 := by
  cases t <;> simp [active] at h <;> simp [tw, tc]

/-- a collector's own step that keeps the lock: the task `t` becomes `t'`, the step changes `hot` or the
    shards, and what is to be shown is the phase invariant of `t'` -/
theorem Inv.collector_step {k : Nat} {s : St} (I : Inv k s) {pre post : List Task} {t : Task} (t' : Task)
    (hot' : Bool) (sh' : Bool → Shard)
    (ht : s.tasks = pre ++ t :: post) (ha : active t = 1) (ha' : active t' = 1)
    (hzero : ∀ b c, k < c → (sh' b).cell c = 0)
    (hnew : PhaseInv k { s with hot := hot', sh := sh' } t') :
    Inv k { s with tasks := pre ++ t' :: post, hot := hot', sh := sh' } := by
  have hl := I.locked (t := t) (by simp [ht]) ha
  refine I.splice (some t) (some t') ht rfl ?_ (by simp only [Option.elim, ha, ha']) I.awf hzero (fun h => by simp [hl] at h)
    (fun h => absurd (ha.symm.trans h) Nat.one_ne_zero) ?_ I.snapsOk
  · cases t' <;> simp [active] at ha' <;> trivial
  · refine phase_congr { s with hot := hot', sh := sh' } _ s.lock ?_ ?_ t' hnew <;> intros <;>
      simp [ht, weightless_of_active ha, weightless_of_active ha']

theorem step_flip {k : Nat} {s : St} (pre post : List Task)
    (ht : s.tasks = pre ++ Task.colLocked :: post)
    (I : Inv k s) : Inv k { s with
        tasks := pre ++ Task.colSpin s.hot s.n s.claimed :: post
        hot := !s.hot } :=
  I.collector_step _ _ s.sh ht rfl rfl I.zero (Normal.flip I.twf (I.phase .colLocked (by simp [ht])))

theorem step_spinOk {k : Nat} {s : St} (pre post : List Task) (cold : Bool) (ov : Nat) (S : List Obs)
    (ht : s.tasks = pre ++ Task.colSpin cold ov S :: post)
    (hc : (s.sh cold).count = ov)
    (I : Inv k s) : Inv k { s with
        tasks := pre ++ Task.colMove cold ov (prog k) (fun _ => 0) S :: post
        sh := modSh s.sh cold (fun x => { x with count := 0 }) } :=
  I.collector_step _ s.hot _ ht rfl rfl (zero_modSh I.zero (I.zero cold))
    (SpinInv.spinOk I.twf (I.awf cold) (I.zero cold) (I.phase (.colSpin cold ov S) (by simp [ht])) hc)

theorem step_swap {k : Nat} {s : St} (pre post : List Task) (cold : Bool) (ov : Nat) (c : Nat)
    (l1 l2 : List CStep) (taken : Cells) (S : List Obs)
    (ht : s.tasks = pre ++ Task.colMove cold ov (l1 ++ CStep.swap c :: l2) taken S :: post)
    (I : Inv k s) : Inv k { s with
        tasks := pre ++ Task.colMove cold ov (l1 ++ l2) (setCell taken c ((s.sh cold).cell c)) S :: post
        sh := modSh s.sh cold (fun x => { x with cell := setCell x.cell c 0 }) } :=
  I.collector_step _ s.hot _ ht rfl rfl
    (zero_modSh I.zero fun c' hc' => by
      by_cases e : c' = c
      · rw [e]; exact setCell_same ..
      · exact (setCell_other _ _ e).trans (I.zero cold c' hc'))
    (MoveInv.swap (I.zero cold) (I.phase (.colMove cold ov _ taken S) (by simp [ht])))

theorem step_addHot {k : Nat} {s : St} (pre post : List Task) (cold : Bool) (ov : Nat) (c : Nat)
    (l1 l2 : List CStep) (taken : Cells) (S : List Obs)
    (ht : s.tasks = pre ++ Task.colMove cold ov (l1 ++ CStep.addHot c :: l2) taken S :: post)
    (hs : CStep.swap c ∉ l1 ++ l2)
    (I : Inv k s) : Inv k { s with
        tasks := pre ++ Task.colMove cold ov (l1 ++ l2) taken S :: post
        sh := modSh s.sh (!cold) (fun x => { x with cell := setCell x.cell c (x.cell c + taken c) }) } := by
  have hm : MoveInv k s cold ov (l1 ++ CStep.addHot c :: l2) taken S := I.phase (.colMove ..) (by simp [ht])
  have ⟨_, _, _, _, m4, _⟩ := hm
  exact I.collector_step _ s.hot _ ht rfl rfl
    (zero_modSh I.zero fun c' hc' => by
      simp only [setCell_add, I.zero (!cold) c' hc', Int.zero_add]
      split
      · next e => exact e ▸ m4 c' hc'
      · rfl)
    (hm.addHot hs)

theorem step_addCount {k : Nat} {s : St} (pre post : List Task) (cold : Bool) (ov : Nat)
    (l1 l2 : List CStep) (taken : Cells) (S : List Obs)
    (ht : s.tasks = pre ++ Task.colMove cold ov (l1 ++ CStep.addCount :: l2) taken S :: post)
    (I : Inv k s) : Inv k { s with
        tasks := pre ++ Task.colMove cold ov (l1 ++ l2) taken S :: post
        sh := modSh s.sh (!cold) (fun x => { x with count := x.count + ov }) } :=
  I.collector_step _ s.hot _ ht rfl rfl (zero_modSh I.zero (I.zero (!cold)))
    (MoveInv.addCount (I.phase (.colMove cold ov _ taken S) (by simp [ht])))

theorem step_unlock {k : Nat} {s : St} (pre post : List Task) (cold : Bool) (ov : Nat)
    (taken : Cells) (S : List Obs)
    (ht : s.tasks = pre ++ Task.colMove cold ov [CStep.unlock] taken S :: post)
    (I : Inv k s) : Inv k { s with
        tasks := pre ++ post
        lock := false
        snaps := s.snaps ++ [(⟨ov, taken⟩, S)]
        asg := fun b => if b = cold then [] else s.asg (!cold) ++ s.asg cold } := by
  have hmem : Task.colMove cold ov [CStep.unlock] taken S ∈ s.tasks := by simp [ht]
  obtain ⟨hN, hov, htk⟩ := MoveInv.unlock (I.phase _ hmem)
  refine I.splice (some _) none ht rfl trivial (by rw [I.locked hmem rfl]; rfl) ?_ I.zero ?_ nofun trivial ?_
  · intro b o h
    dsimp only at h
    split at h
    · cases h
    · rcases List.mem_append.1 h with h | h <;> exact I.awf _ o h
  · intro _
    exact normal_congr { s with asg := _ } (pre ++ post) false (by simp [ht, tw]) (by simp [ht, tc]) hN
  · intro p h
    rcases List.mem_append.1 h with h | h
    · exact I.snapsOk p h
    · cases List.mem_singleton.1 h; exact ⟨hov, htk⟩

end Hp
