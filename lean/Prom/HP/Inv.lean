import Prom.HP.Basic
/-
The invariant `Inv` of the hot/cold protocol and the vocabulary it is written in: what the tasks in flight still
owe a shard (`pendW`, `pend`), which of them hold the collect lock (`active`), well-formedness of a collector's
remaining steps (`TodoWf`, with `wf_prog` for the list it starts from), the phase invariants `Normal` / `SpinInv` /
`MoveInv` of the task that holds the lock (`PhaseInv`), and `inv_init`. Preservation is in `Pres` and `Pres2`.
`cutOf` / `cutOf_active` (the cut a collector past its flip carries) serve `Main` (`Inv.normal_of_no_cut`) and `Order`.
-/
namespace Hp

/-- the weight task `t` has claimed on shard `b` and not yet published to its count -/
def tw (b : Bool) : Task → Nat
  | .obsRun o s _ => if s = b then o.w else 0
  | _ => 0

/-- what task `t` has claimed on shard `b` and not yet added to its cell `c` -/
def tc (b : Bool) (c : Nat) : Task → Int
  | .obsRun _ s rest => if s = b then contribL rest c else 0
  | _ => 0

/-- 1 for a task that holds the collect lock -/
def active : Task → Nat
  | .colLocked => 1
  | .colSpin .. => 1
  | .colMove .. => 1
  | _ => 0

/-- the cut a task carries (collectors past their flip) -/
def cutOf : Task → Option (List Obs)
  | .colSpin _ _ S => some S
  | .colMove _ _ _ _ S => some S
  | _ => none

def pendW (b : Bool) (ts : List Task) : Nat := (ts.map (tw b)).sum
def pend (b : Bool) (c : Nat) (ts : List Task) : Int := (ts.map (tc b c)).sum
def nActive (ts : List Task) : Nat := (ts.map active).sum

@[simp] theorem pendW_nil (b) : pendW b [] = 0 := rfl
@[simp] theorem pend_nil (b c) : pend b c [] = 0 := rfl
@[simp] theorem nActive_nil : nActive [] = 0 := rfl
@[simp] theorem pendW_append (b x y) : pendW b (x ++ y) = pendW b x + pendW b y := by simp [pendW]
@[simp] theorem pend_append (b c x y) : pend b c (x ++ y) = pend b c x + pend b c y := by simp [pend]
@[simp] theorem nActive_append (x y) : nActive (x ++ y) = nActive x + nActive y := by simp [nActive]
@[simp] theorem pendW_cons (b t x) : pendW b (t :: x) = tw b t + pendW b x := by simp [pendW]
@[simp] theorem pend_cons (b c t x) : pend b c (t :: x) = tc b c t + pend b c x := by simp [pend]
@[simp] theorem nActive_cons (t x) : nActive (t :: x) = active t + nActive x := by simp [nActive]

theorem nActive_zero {ts : List Task} (h : nActive ts = 0) : ∀ t ∈ ts, active t = 0 :=
  fun _ ht => List.sum_eq_zero_iff_forall_eq_nat.1 h _ (List.mem_map_of_mem ht)

theorem cutOf_active {t : Task} {S} (h : cutOf t = some S) : active t = 1 := by
  cases t <;> simp [cutOf] at h <;> rfl

def TaskWf (k : Nat) : Task → Prop
  | .obsStart o => 1 ≤ o.w ∧ WfUpd k o.upd
  | .obsRun o _ rest => 1 ≤ o.w ∧ WfUpd k rest
  | _ => True

theorem sum_map_zero {α} {f : α → Int} {l : List α} (h : ∀ x ∈ l, f x = 0) : (l.map f).sum = 0 := by
  rw [List.map_congr_left h, List.map_const', List.sum_replicate_int, Int.mul_zero]

theorem contribL_zero_of_wf {k : Nat} {l : List (Nat × Int)} (h : WfUpd k l) {c : Nat}
    (hc : k < c) : contribL l c = 0 :=
  sum_map_zero fun p hp => if_neg (Nat.ne_of_lt (Nat.lt_of_le_of_lt (h p hp) hc))

theorem tot_zero_of_wf {k : Nat} {D : List Obs} (h : ∀ o ∈ D, WfUpd k o.upd) {c : Nat} (hc : k < c) :
    tot D c = 0 :=
  sum_map_zero fun o ho => contribL_zero_of_wf (h o ho) hc

theorem tc_zero_of_tw_zero {k : Nat} {b : Bool} {t : Task} (hwf : TaskWf k t) (h : tw b t = 0) (c : Nat) :
    tc b c t = 0 := by
  cases t with
  | obsRun o s rest =>
    simp only [tw, tc] at h ⊢
    split at h
    · have := hwf.1; omega
    · rw [if_neg ‹_›]
  | _ => rfl

theorem pend_zero_of_pendW_zero {k : Nat} {b : Bool} {ts : List Task}
    (hwf : ∀ t ∈ ts, TaskWf k t) (h : pendW b ts = 0) (c : Nat) : pend b c ts = 0 :=
  sum_map_zero fun t ht =>
    tc_zero_of_tw_zero (hwf t ht) (List.sum_eq_zero_iff_forall_eq_nat.1 h _ (List.mem_map_of_mem ht)) c

/-- well-formedness of what a collector still has to do, independent of the ORDER of the list: no step
    occurs twice, and a cell that still has to be swapped out still has to be added back -/
def TodoWf (todo : List CStep) : Prop :=
  todo.Nodup ∧ ∀ c, CStep.swap c ∈ todo → CStep.addHot c ∈ todo

theorem mem_middle {α} {l1 l2 : List α} {x y : α} : y ∈ l1 ++ x :: l2 ↔ y = x ∨ y ∈ l1 ++ l2 := by
  simp [or_left_comm]

/-- `TodoWf` reads its list as a set: the same steps in another order, without repetition, are well-formed again -/
theorem TodoWf.of_mem_iff {l l' : List CStep} (h : TodoWf l) (hn : l'.Nodup) (hm : ∀ x, x ∈ l' ↔ x ∈ l) :
    TodoWf l' :=
  ⟨hn, fun c hc => (hm _).2 (h.2 c ((hm _).1 hc))⟩

theorem TodoWf.remove {l1 l2 : List CStep} {x : CStep} (h : TodoWf (l1 ++ x :: l2))
    (hx : ∀ c, x = CStep.addHot c → CStep.swap c ∉ l1 ++ l2) : x ∉ l1 ++ l2 ∧ TodoWf (l1 ++ l2) := by
  obtain ⟨hnot, hn⟩ := List.nodup_cons.1 (List.perm_middle.nodup_iff.1 h.1)
  refine ⟨hnot, hn, fun c hc => ?_⟩
  rcases mem_middle.1 (h.2 c (mem_middle.2 (.inr hc))) with e | h'
  · exact absurd hc (hx c e.symm)
  · exact h'

theorem TodoWf.remove_swap {l1 l2 : List CStep} {c : Nat} (h : TodoWf (l1 ++ CStep.swap c :: l2)) :
    CStep.addHot c ∈ l1 ++ l2 ∧ CStep.swap c ∉ l1 ++ l2 ∧ TodoWf (l1 ++ l2) :=
  ⟨by simpa [mem_middle] using h.2 c (by simp), h.remove (by simp)⟩

theorem TodoWf.remove_addHot {l1 l2 : List CStep} {c : Nat} (h : TodoWf (l1 ++ CStep.addHot c :: l2))
    (hs : CStep.swap c ∉ l1 ++ l2) :
    CStep.addHot c ∉ l1 ++ l2 ∧ TodoWf (l1 ++ l2) :=
  h.remove fun _ e => CStep.addHot.inj e ▸ hs

theorem TodoWf.remove_addCount {l1 l2 : List CStep} (h : TodoWf (l1 ++ CStep.addCount :: l2)) :
    CStep.addCount ∉ l1 ++ l2 ∧ TodoWf (l1 ++ l2) :=
  h.remove (by simp)

theorem bucketSteps_eq (j : Nat) :
    bucketSteps j = (List.range j).flatMap fun c => [CStep.swap c, CStep.addHot c] := by
  induction j with
  | zero => rfl
  | succ j ih => rw [bucketSteps, ih, List.range_succ, List.flatMap_append, List.flatMap_singleton]

theorem mem_bucketSteps {j : Nat} {x : CStep} :
    x ∈ bucketSteps j ↔ ∃ c, c < j ∧ (x = CStep.swap c ∨ x = CStep.addHot c) := by
  simp [bucketSteps_eq]

theorem mem_bucketSteps_swap {j c : Nat} : CStep.swap c ∈ bucketSteps j ↔ c < j := by
  simp [mem_bucketSteps]
theorem mem_bucketSteps_addHot {j c : Nat} : CStep.addHot c ∈ bucketSteps j ↔ c < j := by
  simp [mem_bucketSteps]
theorem not_mem_bucketSteps_addCount {j : Nat} : CStep.addCount ∉ bucketSteps j := by
  simp [mem_bucketSteps]
theorem not_mem_bucketSteps_unlock {j : Nat} : CStep.unlock ∉ bucketSteps j := by
  simp [mem_bucketSteps]

theorem nodup_bucketSteps (j : Nat) : (bucketSteps j).Nodup := by
  rw [bucketSteps_eq, List.Nodup, List.pairwise_flatMap]
  refine ⟨fun c _ => by simp, List.pairwise_lt_range.imp fun h => ?_⟩
  simp [Nat.ne_of_lt h]

theorem nodup_prog (k : Nat) : (prog k).Nodup := by
  -- the three steps after the bucket loop are not in it (`addHot k` is not: the loop stops below `k`)
  have tail : ∀ b ∈ [CStep.addCount, CStep.addHot k, CStep.unlock], b ∉ bucketSteps k := by
    simp [not_mem_bucketSteps_addCount, not_mem_bucketSteps_unlock, mem_bucketSteps_addHot]
  simp only [prog, List.nodup_cons, List.nodup_append, nodup_bucketSteps, true_and]
  exact ⟨by simp [mem_bucketSteps_swap], by simp, fun a ha b hb e => tail b hb (e ▸ ha)⟩

theorem swap_mem_prog {k c : Nat} : CStep.swap c ∈ prog k ↔ c ≤ k := by
  simp [prog, mem_bucketSteps_swap]; omega

theorem addHot_mem_prog {k c : Nat} : CStep.addHot c ∈ prog k ↔ c ≤ k := by
  simp [prog, mem_bucketSteps_addHot]; omega

theorem addCount_mem_prog {k : Nat} : CStep.addCount ∈ prog k := by simp [prog]

theorem wf_prog (k : Nat) : TodoWf (prog k) :=
  ⟨nodup_prog k, fun _ hc => addHot_mem_prog.2 (swap_mem_prog.1 hc)⟩

/-- shard `b` is balanced: its count and cells, plus what in-flight tasks still owe it, are the statistics of the
    observations assigned to it -/
def EqN (s : St) (b : Bool) : Prop :=
  (s.sh b).count + pendW b s.tasks = totW (s.asg b) ∧
  ∀ c, (s.sh b).cell c + pend b c s.tasks = tot (s.asg b) c

/-- shard `b` is empty and nothing is on its way to it -/
def Quiet (s : St) (b : Bool) : Prop :=
  s.asg b = [] ∧ pendW b s.tasks = 0 ∧ (s.sh b).count = 0 ∧ ∀ c, (s.sh b).cell c = 0

/-- no collector is past its flip: the cold shard is quiet, the hot one balanced, and everything claimed (the
    counter `n` and the statistics of `claimed`) is assigned to the hot shard -/
def Normal (s : St) : Prop :=
  Quiet s (!s.hot) ∧ EqN s s.hot ∧ s.n = totW (s.asg s.hot) ∧
  totW s.claimed = totW (s.asg s.hot) ∧ ∀ c, tot s.claimed c = tot (s.asg s.hot) c

/-- What the flip fixes, for the spin and the move phase alike (`⟨hh, f1, …, f6⟩`):
    * `hh`  the other shard is the hot one;
    * `f1`  `ov`, the counter read at the flip, is the weight assigned to the cold shard (nothing more is assigned to it),
    * `f2`  and the counter has grown since by what was assigned to the hot shard;
    * `f3`, `f4`  the cut `S` recorded at the flip has the statistics of what is assigned to the cold shard;
    * `f5`, `f6`  everything claimed is assigned to one shard or the other. -/
def Frozen (s : St) (cold : Bool) (ov : Nat) (S : List Obs) : Prop :=
  s.hot = !cold ∧ ov = totW (s.asg cold) ∧
  s.n = totW (s.asg cold) + totW (s.asg (!cold)) ∧
  totW S = totW (s.asg cold) ∧ (∀ c, tot S c = tot (s.asg cold) c) ∧
  totW s.claimed = totW (s.asg cold) + totW (s.asg (!cold)) ∧
  ∀ c, tot s.claimed c = tot (s.asg cold) c + tot (s.asg (!cold)) c

/-- between flip and successful spin: both shards are balanced, the cold one still receiving its late publishes -/
def SpinInv (s : St) (cold : Bool) (ov : Nat) (S : List Obs) : Prop :=
  Frozen s cold ov S ∧ EqN s cold ∧ EqN s (!cold)

/-- During the drain (after the spin, with `todo` still to do). The conjuncts, in the order in which proofs take
    them apart (`⟨fr, m1, …, m8⟩`):
    * `fr`  the frozen facts;
    * `m1`  nothing is pending on the cold shard,
    * `m2`  and its count has been reset;
    * `m3`  `todo` is well-formed;
    * `m4`  nothing has been taken from cells above `k`;
    * `m5`  a cold cell not yet swapped still holds all that is assigned to the cold shard,
    * `m6`  one already swapped is 0 and `taken` holds that amount;
    * `m7`  a hot cell is balanced, and has received the cold amount once both `swap c` and `addHot c` are done;
    * `m8`  the hot count is balanced, and has received `ov` once `addCount` is done. -/
def MoveInv (k : Nat) (s : St) (cold : Bool) (ov : Nat) (todo : List CStep) (taken : Cells)
    (S : List Obs) : Prop :=
  Frozen s cold ov S ∧ pendW cold s.tasks = 0 ∧ (s.sh cold).count = 0 ∧ TodoWf todo ∧
  (∀ c, k < c → taken c = 0) ∧
  (∀ c, CStep.swap c ∈ todo → (s.sh cold).cell c = tot (s.asg cold) c) ∧
  (∀ c, CStep.swap c ∉ todo → (s.sh cold).cell c = 0 ∧ taken c = tot (s.asg cold) c) ∧
  (∀ c, (s.sh (!cold)).cell c + pend (!cold) c s.tasks =
      tot (s.asg (!cold)) c +
        (if CStep.swap c ∉ todo ∧ CStep.addHot c ∉ todo then tot (s.asg cold) c else 0)) ∧
  ((s.sh (!cold)).count + pendW (!cold) s.tasks =
      totW (s.asg (!cold)) + (if CStep.addCount ∉ todo then ov else 0))

/-- what the task that holds the lock knows about the shared state, by the phase it is in -/
def PhaseInv (k : Nat) (s : St) : Task → Prop
  | .colLocked => Normal s
  | .colSpin cold ov S => SpinInv s cold ov S
  | .colMove cold ov todo taken S => MoveInv k s cold ov todo taken S
  | _ => True

theorem active_zero_phase {k : Nat} (s : St) {t : Task} (h : active t = 0) : PhaseInv k s t := by
  cases t <;> simp [active] at h <;> trivial

/-- `twf`: an observer in flight has weight `≥ 1` and updates for cells `≤ k` only; `awf`: the assigned
    observations update cells `≤ k` only; `zero`: cells above `k` stay 0; `act`: exactly the holder of the lock is
    active; `normal`: with the lock free the state is normal; `phase`: the holder's phase invariant; `snapsOk`:
    every snapshot returned is the statistics of the cut recorded with it. -/
structure Inv (k : Nat) (s : St) : Prop where
  twf : ∀ t ∈ s.tasks, TaskWf k t
  awf : ∀ b, ∀ o ∈ s.asg b, WfUpd k o.upd
  zero : ∀ b c, k < c → (s.sh b).cell c = 0
  act : nActive s.tasks = if s.lock then 1 else 0
  normal : s.lock = false → Normal s
  phase : ∀ t ∈ s.tasks, PhaseInv k s t
  snapsOk : ∀ p ∈ s.snaps, p.1.count = totW p.2 ∧ ∀ c, p.1.cell c = tot p.2 c

theorem inv_init (k : Nat) : Inv k init := by
  refine ⟨?_, ?_, ?_, ?_, ?_, ?_, ?_⟩ <;> simp [init, Normal, Quiet, EqN]

end Hp
