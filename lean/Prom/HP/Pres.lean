import Prom.HP.Inv
/-
Preservation of `Inv`, part 1: the assembly lemma `Inv.splice` (every step replaces one place of the task
list), and the steps that neither flip nor drain: spawns and taking / giving back the lock (all four through
`Inv.splice_congr`), and an observer's claim / apply / publish. What these have to show is that the phase
invariant of whichever task holds the lock survives (`phase_congr`, `obs_phase`, `claim_phase`).
-/
namespace Hp

theorem zero_modSh {k : Nat} {sh : Bool → Shard} {b : Bool} {f : Shard → Shard}
    (hz : ∀ b c, k < c → (sh b).cell c = 0) (hf : ∀ c, k < c → (f (sh b)).cell c = 0) :
    ∀ b' c, k < c → (modSh sh b f b').cell c = 0 := by
  intro b' c hc
  simp only [modSh]
  split
  · next e => exact e ▸ hf c hc
  · exact hz b' c hc

theorem mem_splice {α} {pre post : List α} {r : Option α} {t : α} :
    t ∈ pre ++ (r.toList ++ post) ↔ r = some t ∨ t ∈ pre ++ post := by
  cases r <;> simp [or_left_comm, eq_comm]

theorem pendW_toList (b : Bool) (r : Option Task) : pendW b r.toList = r.elim 0 (tw b) := by
  cases r <;> simp
theorem pend_toList (b : Bool) (c : Nat) (r : Option Task) : pend b c r.toList = r.elim 0 (tc b c) := by
  cases r <;> simp
theorem nActive_toList (r : Option Task) : nActive r.toList = r.elim 0 active := by
  cases r <;> simp

theorem Inv.others_inactive {k : Nat} {s : St} (I : Inv k s) {pre post : List Task} {r : Option Task}
    (ht : s.tasks = pre ++ (r.toList ++ post)) (hr : r.elim 0 active ≠ 0) : ∀ t ∈ pre ++ post, active t = 0 := by
  have := I.act
  simp only [ht, nActive_append, nActive_toList] at this
  exact nActive_zero (by simp only [nActive_append]; split at this <;> omega)

theorem Inv.locked {k : Nat} {s : St} (I : Inv k s) {t : Task} (ht : t ∈ s.tasks) (ha : active t = 1) :
    s.lock = true := by
  cases hl : s.lock
  · have := nActive_zero (by simpa [hl] using I.act) t ht; omega
  · rfl

/-- Every step replaces one place `r` of the task list (a task, or none at a spawn) by `r'` (a task, or none
    when the task is done). What is left to show for `Inv`: the new task is well-formed and satisfies its
    phase invariant, the number of active tasks follows the lock, and - only when `r` is inactive, since
    otherwise no other task is active and the phase invariant of an inactive task is `True` - that the
    phase invariant of the other tasks survives. -/
theorem Inv.splice {k : Nat} {s s' : St} (I : Inv k s) {pre post : List Task} (r r' : Option Task)
    (ht : s.tasks = pre ++ (r.toList ++ post)) (ht' : s'.tasks = pre ++ (r'.toList ++ post))
    (hwf : r'.elim True (TaskWf k))
    (hact : r'.elim 0 active + (if s.lock then 1 else 0) = r.elim 0 active + if s'.lock then 1 else 0)
    (hawf : ∀ b, ∀ o ∈ s'.asg b, WfUpd k o.upd)
    (hzero : ∀ b c, k < c → (s'.sh b).cell c = 0)
    (hnormal : s'.lock = false → Normal s')
    (hold : r.elim 0 active = 0 → ∀ t, PhaseInv k s t → PhaseInv k s' t)
    (hnew : r'.elim True (PhaseInv k s'))
    (hsnaps : ∀ p ∈ s'.snaps, p.1.count = totW p.2 ∧ ∀ c, p.1.cell c = tot p.2 c) : Inv k s' := by
  have old : ∀ {t}, t ∈ pre ++ post → t ∈ s.tasks := fun h => ht ▸ mem_splice.2 (.inr h)
  refine ⟨fun t h => ?_, hawf, hzero, ?_, hnormal, fun t h => ?_, hsnaps⟩
  · rcases mem_splice.1 (ht' ▸ h) with h | h
    · cases h; exact hwf
    · exact I.twf t (old h)
  · have := I.act
    simp only [ht, nActive_append, nActive_toList] at this
    simp only [ht', nActive_append, nActive_toList]; omega
  · rcases mem_splice.1 (ht' ▸ h) with h | h
    · cases h; exact hnew
    · by_cases hr : r.elim 0 active = 0
      · exact hold hr t (I.phase t (old h))
      · exact active_zero_phase s' (I.others_inactive ht hr t h)

/-- a phase invariant sees the task list only through `pendW` / `pend`, and not the lock -/
theorem phase_congr {k : Nat} (s : St) (ts' : List Task) (l : Bool)
    (hw : ∀ b, pendW b ts' = pendW b s.tasks)
    (hc : ∀ b c, pend b c ts' = pend b c s.tasks) :
    ∀ t, PhaseInv k s t → PhaseInv k { s with tasks := ts', lock := l } t := by
  intro t h
  cases t <;> simp only [PhaseInv, Normal, Quiet, EqN, SpinInv, MoveInv, Frozen, hw, hc] <;> exact h

theorem normal_congr (s : St) (ts' : List Task) (l : Bool)
    (hw : ∀ b, pendW b ts' = pendW b s.tasks)
    (hc : ∀ b c, pend b c ts' = pend b c s.tasks) :
    Normal s → Normal { s with tasks := ts', lock := l } :=
  phase_congr (k := 0) s ts' l hw hc Task.colLocked

/-- a step that replaces `r` by an `r'` of the same weights and changes at most the lock -/
theorem Inv.splice_congr {k : Nat} {s : St} (I : Inv k s) {pre post : List Task} (r r' : Option Task) (l : Bool)
    (ht : s.tasks = pre ++ (r.toList ++ post))
    (hw : ∀ b, r'.elim 0 (tw b) = r.elim 0 (tw b)) (hc : ∀ b c, r'.elim 0 (tc b c) = r.elim 0 (tc b c))
    (hwf : r'.elim True (TaskWf k))
    (hact : r'.elim 0 active + (if s.lock then 1 else 0) = r.elim 0 active + if l then 1 else 0)
    (hnormal : l = false → Normal s)
    (hnew : r'.elim True (PhaseInv k s)) :
    Inv k { s with tasks := pre ++ (r'.toList ++ post), lock := l } := by
  have hW : ∀ b, pendW b (pre ++ (r'.toList ++ post)) = pendW b s.tasks := by
    intro b; simp only [ht, pendW_append, pendW_toList, hw]
  have hC : ∀ b c, pend b c (pre ++ (r'.toList ++ post)) = pend b c s.tasks := by
    intro b c; simp only [ht, pend_append, pend_toList, hc]
  refine I.splice r r' ht rfl hwf hact I.awf I.zero (fun h => normal_congr s _ l hW hC (hnormal h))
    (fun _ => phase_congr s _ l hW hC) ?_ I.snapsOk
  cases r' with
  | none => trivial
  | some t => exact phase_congr s _ l hW hC t hnew

theorem step_spawnObs {k : Nat} {s : St} (pre post : List Task) (o : Obs) (hw : 1 ≤ o.w) (hu : WfUpd k o.upd)
    (ht : s.tasks = pre ++ post)
    (I : Inv k s) : Inv k { s with tasks := pre ++ Task.obsStart o :: post } :=
  I.splice_congr none (some (.obsStart o)) s.lock ht (fun _ => rfl) (fun _ _ => rfl) ⟨hw, hu⟩ rfl I.normal trivial

theorem step_spawnCol {k : Nat} {s : St} (pre post : List Task) (ht : s.tasks = pre ++ post)
    (I : Inv k s) : Inv k { s with tasks := pre ++ Task.colWant :: post } :=
  I.splice_congr none (some .colWant) s.lock ht (fun _ => rfl) (fun _ _ => rfl) trivial rfl I.normal trivial

theorem step_release {k : Nat} {s : St} (pre post : List Task)
    (ht : s.tasks = pre ++ Task.colLocked :: post)
    (I : Inv k s) : Inv k { s with tasks := pre ++ post, lock := false } :=
  I.splice_congr (some .colLocked) none false ht (fun _ => rfl) (fun _ _ => rfl) trivial
    (by rw [I.locked (t := .colLocked) (by simp [ht]) rfl]; rfl)
    (fun _ => I.phase .colLocked (by simp [ht])) trivial

theorem step_acquire {k : Nat} {s : St} (pre post : List Task)
    (ht : s.tasks = pre ++ Task.colWant :: post) (hl : s.lock = false)
    (I : Inv k s) : Inv k { s with tasks := pre ++ Task.colLocked :: post, lock := true } :=
  I.splice_congr (some .colWant) (some .colLocked) true ht (fun _ => rfl) (fun _ _ => rfl) trivial
    (by rw [hl]; rfl) nofun (I.normal hl)

/-- An observer on shard `b` moves weight or contributions from what it still owes (`pendW b`, `pend b`)
    into shard `b`: the sums shard + pending are unchanged, the other shard is untouched. A shard with an
    observer in flight is neither quiet nor being drained, so every phase invariant sees shard `b` only
    through those sums. -/
theorem obs_phase {k : Nat} {s : St} {b : Bool} (ts' : List Task) (f : Shard → Shard)
    (hlive : 0 < pendW b s.tasks)
    (hW' : pendW (!b) ts' = pendW (!b) s.tasks) (hC' : ∀ c, pend (!b) c ts' = pend (!b) c s.tasks)
    (hW : (f (s.sh b)).count + pendW b ts' = (s.sh b).count + pendW b s.tasks)
    (hC : ∀ c, (f (s.sh b)).cell c + pend b c ts' = (s.sh b).cell c + pend b c s.tasks) :
    ∀ t, PhaseInv k s t → PhaseInv k { s with tasks := ts', sh := modSh s.sh b f } t := by
  have live : ∀ {b'}, pendW b' s.tasks = 0 → b' = !b := fun {b'} h0 =>
    Bool.eq_not_of_ne fun e => by rw [e] at h0; omega
  intro t h
  cases t with
  | colLocked =>
    have ⟨⟨_, q2, _⟩, _⟩ : Normal s := h
    obtain rfl : s.hot = b := by simpa using live q2
    simpa only [PhaseInv, Normal, Quiet, EqN, modSh_not, modSh_same, hW', hC', hW, hC] using h
  | colSpin cold ov S =>
    rcases (Decidable.em (cold = b)).imp_right Bool.eq_not_of_ne with rfl | rfl <;>
      simpa only [PhaseInv, SpinInv, Frozen, EqN, Bool.not_not, modSh_not, modSh_same, hW', hC', hW, hC] using h
  | colMove cold ov todo taken S =>
    have ⟨_, m1, _⟩ : MoveInv k s cold ov todo taken S := h
    obtain rfl := live m1
    simpa only [PhaseInv, MoveInv, Frozen, Bool.not_not, modSh_not, modSh_same, hW', hC', hW, hC] using h
  | _ => trivial

theorem pendW_pos_of_obsRun {s : St} {pre post : List Task} {o : Obs} {b : Bool} {l : List (Nat × Int)}
    (ht : s.tasks = pre ++ Task.obsRun o b l :: post) (hw : 1 ≤ o.w) : 0 < pendW b s.tasks := by
  simp [ht, tw]; omega

theorem apply_phase {k : Nat} {s : St} {pre post : List Task} {o : Obs} {b : Bool} {c : Nat} {a : Int}
    {l1 l2 : List (Nat × Int)} (ht : s.tasks = pre ++ Task.obsRun o b (l1 ++ (c, a) :: l2) :: post)
    (hw : 1 ≤ o.w) : ∀ t, PhaseInv k s t → PhaseInv k { s with
        tasks := pre ++ Task.obsRun o b (l1 ++ l2) :: post
        sh := modSh s.sh b (fun x => { x with cell := setCell x.cell c (x.cell c + a) }) } t :=
  obs_phase _ _ (pendW_pos_of_obsRun ht hw) (by simp [ht, tw]) (by simp [ht, tc]) (by simp [ht, tw])
    fun c' => by
      simp only [ht, pend_append, pend_cons, tc, contribL_middle l1 l2, contribL_cons, setCell_add, if_true]
      omega

theorem step_apply {k : Nat} {s : St} (pre post : List Task) (o : Obs) (b : Bool) (c : Nat) (a : Int)
    (l1 l2 : List (Nat × Int))
    (ht : s.tasks = pre ++ Task.obsRun o b (l1 ++ (c, a) :: l2) :: post)
    (I : Inv k s) : Inv k { s with
        tasks := pre ++ Task.obsRun o b (l1 ++ l2) :: post
        sh := modSh s.sh b (fun x => { x with cell := setCell x.cell c (x.cell c + a) }) } := by
  have owf := I.twf (.obsRun o b (l1 ++ (c, a) :: l2)) (by simp [ht])
  have hck : c ≤ k := owf.2 (c, a) (by simp)
  have hph := apply_phase (k := k) ht owf.1
  exact I.splice (some _) (some _) ht rfl ⟨owf.1, fun p hp => owf.2 p (mem_middle.2 (.inr hp))⟩ rfl I.awf
    (zero_modSh I.zero fun c' hc' => by simpa [setCell, show c' ≠ c by omega] using I.zero b c' hc')
    (fun hl => hph .colLocked (I.normal hl)) (fun _ => hph) trivial I.snapsOk

theorem step_publish {k : Nat} {s : St} (pre post : List Task) (o : Obs) (b : Bool)
    (ht : s.tasks = pre ++ Task.obsRun o b [] :: post)
    (I : Inv k s) : Inv k { s with
        tasks := pre ++ post
        sh := modSh s.sh b (fun x => { x with count := x.count + o.w }) } := by
  have hph := obs_phase (k := k) (s := s) (b := b) (pre ++ post)
    (fun x => { x with count := x.count + o.w })
    (pendW_pos_of_obsRun ht (I.twf (.obsRun o b []) (by simp [ht])).1)
    (by simp [ht, tw]) (by simp [ht, tc]) (by simp [ht, tw]; omega) (by simp [ht, tc])
  exact I.splice (some _) none ht rfl trivial rfl I.awf (zero_modSh I.zero (I.zero b))
    (fun hl => hph .colLocked (I.normal hl)) (fun _ => hph) trivial I.snapsOk

/-- A claim adds the observation `o` to what the hot shard is owed, to what is assigned to it, to `claimed`
    and its weight to `n`: every equation of every phase invariant gains the same amount on both sides. -/
theorem claim_phase {k : Nat} {s : St} (o : Obs) (ts' : List Task)
    (hW : pendW s.hot ts' = pendW s.hot s.tasks + o.w) (hW' : pendW (!s.hot) ts' = pendW (!s.hot) s.tasks)
    (hC : ∀ c, pend s.hot c ts' = pend s.hot c s.tasks + contribL o.upd c)
    (hC' : ∀ c, pend (!s.hot) c ts' = pend (!s.hot) c s.tasks) :
    ∀ t, PhaseInv k s t → PhaseInv k { s with
      tasks := ts', n := s.n + o.w, claimed := s.claimed ++ [o], asg := modAsg s.asg s.hot (· ++ [o]) } t := by
  intro t h
  cases t with
  | colLocked =>
    simpa only [PhaseInv, Normal, Quiet, EqN, modAsg_same, modAsg_not, hW, hW', hC, hC', totW_append, tot_append,
      totW_single, tot_single, ← Nat.add_assoc, ← Int.add_assoc, Nat.add_right_cancel_iff,
      Int.add_left_inj] using h
  | colSpin cold ov S =>
    obtain rfl : cold = !s.hot := by rw [h.1.1, Bool.not_not]
    simpa only [PhaseInv, SpinInv, Frozen, EqN, Bool.not_not, modAsg_same, modAsg_not, hW, hW', hC, hC', totW_append, tot_append,
      totW_single, tot_single, ← Nat.add_assoc, ← Int.add_assoc, Nat.add_right_cancel_iff,
      Int.add_left_inj] using h
  | colMove cold ov todo taken S =>
    obtain rfl : cold = !s.hot := by rw [h.1.1, Bool.not_not]
    simp only [PhaseInv, MoveInv, Frozen, Bool.not_not, modAsg_same, modAsg_not, hW, hW', hC, totW_append, tot_append,
      totW_single, tot_single, ← Nat.add_assoc, ← Int.add_assoc, Nat.add_right_cancel_iff,
      Int.add_left_inj] at h ⊢
    obtain ⟨fr, m1, m2, m3, m4, m5, m6, m7, m8⟩ := h
    -- in `m7`, `m8` the claimed amount joins `tot (asg hot)`, which stands to the left of the `if … else 0` term
    exact ⟨fr, m1, m2, m3, m4, m5, m6, fun c => by rw [m7 c, Int.add_right_comm], by rw [m8, Nat.add_right_comm]⟩
  | _ => trivial

theorem step_claim {k : Nat} {s : St} (pre post : List Task) (o : Obs)
    (ht : s.tasks = pre ++ Task.obsStart o :: post)
    (I : Inv k s) : Inv k { s with
        tasks := pre ++ Task.obsRun o s.hot o.upd :: post
        n := s.n + o.w
        claimed := s.claimed ++ [o]
        asg := modAsg s.asg s.hot (· ++ [o]) } := by
  have owf := I.twf (.obsStart o) (by simp [ht])
  have hph := claim_phase (k := k) (s := s) o (pre ++ Task.obsRun o s.hot o.upd :: post)
    (by simp [ht, tw]; omega) (by simp [ht, tw]) (by simp [ht, tc]; omega) (by simp [ht, tc])
  refine I.splice (some _) (some _) ht rfl owf rfl ?_ I.zero
    (fun hl => hph .colLocked (I.normal hl)) (fun _ => hph) trivial I.snapsOk
  intro b o' h
  simp only [modAsg] at h
  split at h
  · rcases List.mem_append.1 h with h | h
    · exact I.awf b o' h
    · exact List.mem_singleton.1 h ▸ owf.2
  · exact I.awf b o' h

end Hp
