/-
Hot/cold histogram protocol (C02/C03): relational step model with a list of in-flight tasks
("most general client": tasks are spawned at any time, anywhere in the list), ghost assignment lists.
A task that holds the collect lock without having flipped (`colLocked`) may also `release` it again:
that is `get_sample_sum`, which reads the hot shard's sum under the lock.
A collector past its spin (`colMove cold ov todo taken S`) takes the steps of `todo` in ANY order such that
`addHot c` comes after `swap c` and `unlock` comes last; an observer applies its cell updates in any order.
-/
namespace Hp

abbrev Cells := Nat → Int

def setCell (f : Cells) (c : Nat) (v : Int) : Cells := fun x => if x = c then v else f x

@[simp] theorem setCell_same (f : Cells) (c v) : setCell f c v c = v := by simp [setCell]
theorem setCell_other (f : Cells) {c x : Nat} (v) (h : x ≠ c) : setCell f c v x = f x := by
  simp [setCell, h]

theorem setCell_self (f : Cells) (c : Nat) : setCell f c (f c) = f := by
  funext x
  by_cases e : x = c <;> simp [setCell, e]

theorem setCell_add (f : Cells) (c : Nat) (a : Int) (x : Nat) :
    setCell f c (f c + a) x = f x + if c = x then a else 0 := by
  by_cases e : x = c
  · simp [setCell, e]
  · simp [setCell, e, Ne.symm e]

/-- an observation as the protocol sees it: `w` samples (1 for `observe`, the batch size for a local flush) and
    the amounts `upd` it adds to cells (entries `(bucket, n)` and `(k, sum)`) -/
structure Obs where
  w : Nat
  upd : List (Nat × Int)

/-- contribution of an update list to cell `c` -/
def contribL (l : List (Nat × Int)) (c : Nat) : Int :=
  (l.map (fun p => if p.1 = c then p.2 else 0)).sum

@[simp] theorem contribL_nil (c) : contribL [] c = 0 := rfl
@[simp] theorem contribL_cons (p l c) :
    contribL (p :: l) c = (if p.1 = c then p.2 else 0) + contribL l c := by
  simp [contribL]
theorem contribL_app (l1 l2 c) : contribL (l1 ++ l2) c = contribL l1 c + contribL l2 c := by
  simp [contribL]
theorem contribL_middle (l1 l2 : List (Nat × Int)) (p : Nat × Int) (c : Nat) :
    contribL (l1 ++ p :: l2) c = contribL (p :: (l1 ++ l2)) c := by
  rw [contribL_app, contribL_cons, contribL_cons, contribL_app, Int.add_left_comm]

def totW (D : List Obs) : Nat := (D.map (·.w)).sum
def tot (D : List Obs) (c : Nat) : Int := (D.map (fun o => contribL o.upd c)).sum

@[simp] theorem totW_nil : totW [] = 0 := rfl
@[simp] theorem tot_nil (c) : tot [] c = 0 := rfl
theorem totW_cons (o : Obs) (D) : totW (o :: D) = o.w + totW D := by simp [totW]
theorem tot_cons (o : Obs) (D c) : tot (o :: D) c = contribL o.upd c + tot D c := by simp [tot]
@[simp] theorem totW_append (a b) : totW (a ++ b) = totW a + totW b := by simp [totW]
@[simp] theorem tot_append (a b c) : tot (a ++ b) c = tot a c + tot b c := by simp [tot]
@[simp] theorem totW_single (o) : totW [o] = o.w := by simp [totW]
@[simp] theorem tot_single (o c) : tot [o] c = contribL o.upd c := by simp [tot]

/-- one of the two shards: its count, and its cells (`0..k-1` the buckets, `k` the sum) -/
structure Shard where
  count : Nat
  cell : Cells

/-- a step of a collector's drain: read-and-reset cold cell `c`, add what was read to hot cell `c`, add the
    overall count to the hot count, release the collect lock -/
inductive CStep
  | swap (c : Nat) | addHot (c : Nat) | addCount | unlock
  deriving DecidableEq

/-- what a thread inside a call still has to do. Observer: before its claim; after it (`s` the shard it claimed
    on, `rest` the updates still to apply). Collector: waiting for the lock, holding it, spinning on the cold
    count (`overall` the counter read at the flip), draining (`taken` what it read so far). `S` is a ghost: the
    claim order as it stood at the flip. -/
inductive Task
  | obsStart (o : Obs)
  | obsRun (o : Obs) (s : Bool) (rest : List (Nat × Int))
  | colWant
  | colLocked
  | colSpin (cold : Bool) (overall : Nat) (S : List Obs)
  | colMove (cold : Bool) (overall : Nat) (todo : List CStep) (taken : Cells) (S : List Obs)

/-- what a collect returns: the count and the cells it read -/
structure Snap where
  count : Nat
  cell : Cells

/-- `hot`, `n`: the shard index and the counter held in `shard_and_count`; `sh` the two shards; `lock` the
    collect lock; `tasks` the calls in flight. Ghosts: `claimed` the observations in the order of their claims,
    `asg b` those whose amounts are in shard `b` or still owed to it, `snaps` every snapshot returned, with the
    cut it stands for. -/
structure St where
  hot : Bool
  n : Nat
  sh : Bool → Shard
  lock : Bool
  tasks : List Task
  claimed : List Obs
  asg : Bool → List Obs
  snaps : List (Snap × List Obs)

def init : St :=
  { hot := false, n := 0, sh := fun _ => ⟨0, fun _ => 0⟩, lock := false, tasks := [],
    claimed := [], asg := fun _ => [], snaps := [] }

def bucketSteps : Nat → List CStep
  | 0 => []
  | j + 1 => bucketSteps j ++ [CStep.swap j, CStep.addHot j]

/-- the steps a collector has to take after its spin, for `k` bucket cells (`0..k-1`) and the sum cell `k`, in the
    order of `HistogramCore::proto` in src/histogram.rs (what `collect` runs) -/
def prog (k : Nat) : List CStep :=
  CStep.swap k :: (bucketSteps k ++ [CStep.addCount, CStep.addHot k, CStep.unlock])

def WfUpd (k : Nat) (l : List (Nat × Int)) : Prop := ∀ p ∈ l, p.1 ≤ k

def modSh (sh : Bool → Shard) (s : Bool) (f : Shard → Shard) : Bool → Shard :=
  fun b => if b = s then f (sh b) else sh b

def modAsg (a : Bool → List Obs) (s : Bool) (f : List Obs → List Obs) : Bool → List Obs :=
  fun b => if b = s then f (a b) else a b

theorem modSh_same (sh : Bool → Shard) (b : Bool) (f : Shard → Shard) : modSh sh b f b = f (sh b) := by
  simp [modSh]
theorem modSh_not (sh : Bool → Shard) (b : Bool) (f : Shard → Shard) : modSh sh b f (!b) = sh (!b) := by
  simp [modSh]
theorem modSh_not' (sh : Bool → Shard) (b : Bool) (f : Shard → Shard) : modSh sh (!b) f b = sh b := by
  simp [modSh]
theorem modSh_self (sh : Bool → Shard) (b : Bool) (f : Shard → Shard) (h : f (sh b) = sh b) :
    modSh sh b f = sh := by
  funext b'
  by_cases e : b' = b <;> simp [modSh, e, h]

theorem modAsg_same (a : Bool → List Obs) (b : Bool) (f : List Obs → List Obs) : modAsg a b f b = f (a b) := by
  simp [modAsg]
theorem modAsg_not (a : Bool → List Obs) (b : Bool) (f : List Obs → List Obs) : modAsg a b f (!b) = a (!b) := by
  simp [modAsg]

inductive Step (k : Nat) : St → St → Prop
  | spawnObs (s : St) (pre post : List Task) (o : Obs) (hw : 1 ≤ o.w) (hu : WfUpd k o.upd)
      (ht : s.tasks = pre ++ post) :
      Step k s { s with tasks := pre ++ Task.obsStart o :: post }
  | spawnCol (s : St) (pre post : List Task) (ht : s.tasks = pre ++ post) :
      Step k s { s with tasks := pre ++ Task.colWant :: post }
  | claim (s : St) (pre post : List Task) (o : Obs)
      (ht : s.tasks = pre ++ Task.obsStart o :: post) :
      Step k s { s with
        tasks := pre ++ Task.obsRun o s.hot o.upd :: post
        n := s.n + o.w
        claimed := s.claimed ++ [o]
        asg := modAsg s.asg s.hot (· ++ [o]) }
  | apply (s : St) (pre post : List Task) (o : Obs) (b : Bool) (c : Nat) (a : Int)
      (l1 l2 : List (Nat × Int))
      (ht : s.tasks = pre ++ Task.obsRun o b (l1 ++ (c, a) :: l2) :: post) :
      Step k s { s with
        tasks := pre ++ Task.obsRun o b (l1 ++ l2) :: post
        sh := modSh s.sh b (fun x => { x with cell := setCell x.cell c (x.cell c + a) }) }
  | publish (s : St) (pre post : List Task) (o : Obs) (b : Bool)
      (ht : s.tasks = pre ++ Task.obsRun o b [] :: post) :
      Step k s { s with
        tasks := pre ++ post
        sh := modSh s.sh b (fun x => { x with count := x.count + o.w }) }
  | acquire (s : St) (pre post : List Task)
      (ht : s.tasks = pre ++ Task.colWant :: post) (hl : s.lock = false) :
      Step k s { s with tasks := pre ++ Task.colLocked :: post, lock := true }
  | release (s : St) (pre post : List Task)
      (ht : s.tasks = pre ++ Task.colLocked :: post) :
      Step k s { s with tasks := pre ++ post, lock := false }
  | flip (s : St) (pre post : List Task)
      (ht : s.tasks = pre ++ Task.colLocked :: post) :
      Step k s { s with
        tasks := pre ++ Task.colSpin s.hot s.n s.claimed :: post
        hot := !s.hot }
  | spinOk (s : St) (pre post : List Task) (cold : Bool) (ov : Nat) (S : List Obs)
      (ht : s.tasks = pre ++ Task.colSpin cold ov S :: post)
      (hc : (s.sh cold).count = ov) :
      Step k s { s with
        tasks := pre ++ Task.colMove cold ov (prog k) (fun _ => 0) S :: post
        sh := modSh s.sh cold (fun x => { x with count := 0 }) }
  /- the collector's drain: the steps of `todo` may be taken in ANY order (the task takes any one
     element of the list: `l1 ++ step :: l2` becomes `l1 ++ l2`), subject to: `addHot c` only once
     `swap c` has been done (it is no longer in the list), `unlock` last (nothing else is left) -/
  | swap (s : St) (pre post : List Task) (cold : Bool) (ov : Nat) (c : Nat)
      (l1 l2 : List CStep) (taken : Cells) (S : List Obs)
      (ht : s.tasks = pre ++ Task.colMove cold ov (l1 ++ CStep.swap c :: l2) taken S :: post) :
      Step k s { s with
        tasks := pre ++ Task.colMove cold ov (l1 ++ l2) (setCell taken c ((s.sh cold).cell c)) S :: post
        sh := modSh s.sh cold (fun x => { x with cell := setCell x.cell c 0 }) }
  | addHot (s : St) (pre post : List Task) (cold : Bool) (ov : Nat) (c : Nat)
      (l1 l2 : List CStep) (taken : Cells) (S : List Obs)
      (ht : s.tasks = pre ++ Task.colMove cold ov (l1 ++ CStep.addHot c :: l2) taken S :: post)
      (hs : CStep.swap c ∉ l1 ++ l2) :
      Step k s { s with
        tasks := pre ++ Task.colMove cold ov (l1 ++ l2) taken S :: post
        sh := modSh s.sh (!cold) (fun x => { x with cell := setCell x.cell c (x.cell c + taken c) }) }
  | addCount (s : St) (pre post : List Task) (cold : Bool) (ov : Nat)
      (l1 l2 : List CStep) (taken : Cells) (S : List Obs)
      (ht : s.tasks = pre ++ Task.colMove cold ov (l1 ++ CStep.addCount :: l2) taken S :: post) :
      Step k s { s with
        tasks := pre ++ Task.colMove cold ov (l1 ++ l2) taken S :: post
        sh := modSh s.sh (!cold) (fun x => { x with count := x.count + ov }) }
  | unlock (s : St) (pre post : List Task) (cold : Bool) (ov : Nat)
      (taken : Cells) (S : List Obs)
      (ht : s.tasks = pre ++ Task.colMove cold ov [CStep.unlock] taken S :: post) :
      Step k s { s with
        tasks := pre ++ post
        lock := false
        snaps := s.snaps ++ [(⟨ov, taken⟩, S)]
        asg := fun b => if b = cold then [] else s.asg (!cold) ++ s.asg cold }

inductive Reach (k : Nat) : St → Prop
  | init : Reach k init
  | step {s s'} : Reach k s → Step k s s' → Reach k s'

end Hp
