import Prom.HP.Pres2
/-
`Inv` holds in every reachable state (`inv_step`, `inv_reach`), and what that gives for reachable states: snapshots
are the statistics of their cuts (`snapshot_is_prefix`), drains stay well-formed (`reach_todoWf`), the hot shard
accounts for everything claimed while no collector is past its flip (`Inv.normal_of_no_cut`, `hot_balance`,
`quiescent_total`), and when a spin succeeds (`spin_enabled_iff`). Last: the drain in the order of
src/histogram.rs is an instance of the any-order steps (`Step.swap_head`, `addHot_head`, `addCount_head`).
-/
namespace Hp

theorem inv_step {k : Nat} {s s' : St} (I : Inv k s) (h : Step k s s') : Inv k s' := by
  cases h with
  | spawnObs pre post o hw hu ht => exact step_spawnObs pre post o hw hu ht I
  | spawnCol pre post ht => exact step_spawnCol pre post ht I
  | release pre post ht => exact step_release pre post ht I
  | claim pre post o ht => exact step_claim pre post o ht I
  | apply pre post o b c a l1 l2 ht => exact step_apply pre post o b c a l1 l2 ht I
  | publish pre post o b ht => exact step_publish pre post o b ht I
  | acquire pre post ht hl => exact step_acquire pre post ht hl I
  | flip pre post ht => exact step_flip pre post ht I
  | spinOk pre post cold ov S ht hc => exact step_spinOk pre post cold ov S ht hc I
  | swap pre post cold ov c l1 l2 taken S ht => exact step_swap pre post cold ov c l1 l2 taken S ht I
  | addHot pre post cold ov c l1 l2 taken S ht hs => exact step_addHot pre post cold ov c l1 l2 taken S ht hs I
  | addCount pre post cold ov l1 l2 taken S ht => exact step_addCount pre post cold ov l1 l2 taken S ht I
  | unlock pre post cold ov taken S ht => exact step_unlock pre post cold ov taken S ht I

theorem inv_reach {k : Nat} {s : St} (h : Reach k s) : Inv k s := by
  induction h with
  | init => exact inv_init k
  | step _ hs ih => exact inv_step ih hs

/-- `Inv.snapsOk` in reachable states; what it claims is told at `C02.snapshot_is_prefix` (that the cut is a
    prefix of the claim order is `Ord.snapsPre`) -/
theorem snapshot_is_prefix {k : Nat} {s : St} (h : Reach k s) :
    ∀ p ∈ s.snaps, p.1.count = totW p.2 ∧ ∀ c, p.1.cell c = tot p.2 c :=
  (inv_reach h).snapsOk

/-- in every reachable state the steps a draining collector still has to take are well-formed (`TodoWf`): no cold
    cell is swapped twice, no drained amount added twice -/
theorem reach_todoWf {k : Nat} {s : St} (h : Reach k s) {cold : Bool} {ov : Nat} {todo : List CStep}
    {taken : Cells} {S : List Obs} (ht : Task.colMove cold ov todo taken S ∈ s.tasks) : TodoWf todo := by
  obtain ⟨_, _, _, m3, _⟩ : MoveInv k s cold ov todo taken S := (inv_reach h).phase _ ht
  exact m3

/-- A state in which no collector is past its flip is normal, whether the lock is free or held by a task that has
    not flipped (`colLocked`: `get_sample_sum` reads the hot shard's sum in such a state). -/
theorem Inv.normal_of_no_cut {k : Nat} {s : St} (I : Inv k s) (hc : ∀ t ∈ s.tasks, cutOf t = none) : Normal s := by
  cases hl : s.lock
  · exact I.normal hl
  · -- the lock is held, so some task is active; without a cut it is `colLocked`, whose phase invariant is `Normal`
    obtain ⟨_, hx, ha⟩ := List.sum_pos_iff_exists_pos_nat.1 (show 0 < nActive s.tasks by rw [I.act, hl]; decide)
    obtain ⟨t, ht, rfl⟩ := List.mem_map.1 hx
    cases t with
    | colLocked => exact I.phase _ ht
    | colSpin | colMove => cases hc _ ht
    | _ => exact absurd ha (Nat.lt_irrefl 0)

/-- while no collector is between flip and unlock, the hot shard together with what in-flight observations still
    owe it accounts for everything claimed -/
theorem hot_balance {k : Nat} {s : St} (h : Reach k s) (hc : ∀ t ∈ s.tasks, cutOf t = none) :
    s.n = totW s.claimed ∧ (s.sh s.hot).count + pendW s.hot s.tasks = totW s.claimed ∧
    ∀ c, (s.sh s.hot).cell c + pend s.hot c s.tasks = tot s.claimed c := by
  obtain ⟨_, ⟨e1, e2⟩, hn, c1, c2⟩ := (inv_reach h).normal_of_no_cut hc
  exact ⟨hn.trans c1.symm, e1.trans c1.symm, fun c => (e2 c).trans (c2 c).symm⟩

/-- `hot_balance` with the lock free; what it claims is told at `C03.quiescent_total` -/
theorem quiescent_total {k : Nat} {s : St} (h : Reach k s) (hl : s.lock = false) :
    s.n = totW s.claimed ∧
    (pendW s.hot s.tasks = 0 → (s.sh s.hot).count = totW s.claimed ∧
      ∀ c, (s.sh s.hot).cell c = tot s.claimed c) := by
  -- with the lock free no task is active, but a task that carries a cut is
  obtain ⟨hn, e1, e2⟩ := hot_balance h fun t ht => Option.eq_none_iff_forall_ne_some.2 fun S hS =>
    Nat.zero_ne_one ((nActive_zero (by rw [(inv_reach h).act, hl]; rfl) t ht).symm.trans (cutOf_active hS))
  refine ⟨hn, fun hp => ⟨by rw [← e1, hp, Nat.add_zero], fun c => ?_⟩⟩
  rw [← e2 c, pend_zero_of_pendW_zero (inv_reach h).twf hp c, Int.add_zero]

/-- a collector's spin finds the count it expects exactly when no observation is pending on the cold shard -/
theorem spin_enabled_iff {k : Nat} {s : St} (h : Reach k s) {cold : Bool} {ov : Nat} {S : List Obs}
    (ht : Task.colSpin cold ov S ∈ s.tasks) : (s.sh cold).count = ov ↔ pendW cold s.tasks = 0 := by
  obtain ⟨⟨_, f1, _⟩, ⟨e1, _⟩, _⟩ : SpinInv s cold ov S := (inv_reach h).phase _ ht
  omega

/-- the order of src/histogram.rs, `todo` taken from its head, is an instance of the any-order steps (`l1 = []`) -/
theorem Step.swap_head {k : Nat} (s : St) (pre post : List Task) (cold : Bool) (ov c : Nat)
    (todo : List CStep) (taken : Cells) (S : List Obs)
    (ht : s.tasks = pre ++ Task.colMove cold ov (CStep.swap c :: todo) taken S :: post) :
    Step k s { s with
      tasks := pre ++ Task.colMove cold ov todo (setCell taken c ((s.sh cold).cell c)) S :: post
      sh := modSh s.sh cold (fun x => { x with cell := setCell x.cell c 0 }) } :=
  Step.swap s pre post cold ov c [] todo taken S ht

theorem Step.addHot_head {k : Nat} (s : St) (pre post : List Task) (cold : Bool) (ov c : Nat)
    (todo : List CStep) (taken : Cells) (S : List Obs)
    (ht : s.tasks = pre ++ Task.colMove cold ov (CStep.addHot c :: todo) taken S :: post)
    (hs : CStep.swap c ∉ todo) :
    Step k s { s with
      tasks := pre ++ Task.colMove cold ov todo taken S :: post
      sh := modSh s.sh (!cold) (fun x => { x with cell := setCell x.cell c (x.cell c + taken c) }) } :=
  Step.addHot s pre post cold ov c [] todo taken S ht hs

theorem Step.addCount_head {k : Nat} (s : St) (pre post : List Task) (cold : Bool) (ov : Nat)
    (todo : List CStep) (taken : Cells) (S : List Obs)
    (ht : s.tasks = pre ++ Task.colMove cold ov (CStep.addCount :: todo) taken S :: post) :
    Step k s { s with
      tasks := pre ++ Task.colMove cold ov todo taken S :: post
      sh := modSh s.sh (!cold) (fun x => { x with count := x.count + ov }) } :=
  Step.addCount s pre post cold ov [] todo taken S ht

end Hp
