import Prom.HP.Main
/-
Order side of the hot/cold protocol. `claimed` lists the observations in the order of their claim steps (the
modification order of `shard_and_count`) and only grows, by appending (`claimed_mono`). A collector records it at
its flip; `Ord`, which holds in every reachable state (`ord_reach`), says that every cut ever recorded — returned,
or still carried by a collector between flip and unlock — is a prefix of `claimed` (C02: no later observation
without the earlier ones), and that the cuts are nested in the order of return (C03: snapshots only grow).
-/
namespace Hp

structure Ord (s : St) : Prop where
  snapsPre : ∀ p ∈ s.snaps, p.2 <+: s.claimed
  taskPre : ∀ t ∈ s.tasks, ∀ S, cutOf t = some S → S <+: s.claimed ∧ ∀ p ∈ s.snaps, p.2 <+: S
  chain : s.snaps.Pairwise (fun p q => p.2 <+: q.2)

theorem ord_init : Ord init := by
  refine ⟨?_, ?_, ?_⟩ <;> simp [init]

/-- a step that replaces the place `r` of the task list by `r'`, creates no cut, returns no snapshot and
    at most appends to `claimed` -/
theorem ord_splice {s s' : St} {pre post : List Task} (r r' : Option Task)
    (ht : s.tasks = pre ++ (r.toList ++ post)) (ht' : s'.tasks = pre ++ (r'.toList ++ post))
    (hcl : s.claimed <+: s'.claimed) (hsn : s'.snaps = s.snaps)
    (hc : ∀ S, r'.bind cutOf = some S → r.bind cutOf = some S) (O : Ord s) : Ord s' := by
  refine ⟨fun p hp => (O.snapsPre p (hsn ▸ hp)).trans hcl, fun x hx S hS => ?_, hsn ▸ O.chain⟩
  have key : ∀ y ∈ s.tasks, cutOf y = some S → S <+: s'.claimed ∧ ∀ p ∈ s'.snaps, p.2 <+: S :=
    fun y hy hyS => ⟨(O.taskPre y hy S hyS).1.trans hcl, hsn ▸ (O.taskPre y hy S hyS).2⟩
  rcases mem_splice.1 (ht' ▸ hx) with h | h
  · cases h
    obtain ⟨y, hy, hyS⟩ := Option.bind_eq_some_iff.1 (hc S hS)
    exact key y (ht ▸ mem_splice.2 (.inl hy)) hyS
  · exact key x (ht ▸ mem_splice.2 (.inr h)) hS

theorem claimed_mono {k : Nat} {s s' : St} (h : Step k s s') : s.claimed <+: s'.claimed := by
  cases h <;> first | exact List.prefix_refl _ | exact List.prefix_append _ _

theorem ord_step {k : Nat} {s s' : St} (I : Inv k s) (O : Ord s) (h : Step k s s') : Ord s' := by
  have hcl := claimed_mono h
  cases h with
  | spawnObs _ _ _ _ _ ht | spawnCol _ _ ht =>
    exact ord_splice none (some _) ht rfl hcl rfl (fun _ h => h) O
  | release _ _ ht | publish _ _ _ _ ht =>
    exact ord_splice (some _) none ht rfl hcl rfl (fun _ h => h) O
  | claim _ _ _ ht | apply _ _ _ _ _ _ _ _ ht | acquire _ _ ht | spinOk _ _ _ _ _ ht | swap _ _ _ _ _ _ _ _ _ ht
  | addHot _ _ _ _ _ _ _ _ _ ht | addCount _ _ _ _ _ _ _ _ ht =>
    exact ord_splice (some _) (some _) ht rfl hcl rfl (fun _ h => h) O
  | flip pre post ht =>
    refine ⟨O.snapsPre, ?_, O.chain⟩
    intro x hx S hS
    rcases mem_middle.1 hx with rfl | h
    · cases hS; exact ⟨List.prefix_refl _, O.snapsPre⟩
    · exact O.taskPre x (ht ▸ mem_middle.2 (.inr h)) S hS
  | unlock pre post cold ov taken S ht =>
    have hmine := O.taskPre (.colMove cold ov [.unlock] taken S) (by simp [ht]) S rfl
    refine ⟨?_, fun x hx S' hS' => ?_, ?_⟩
    · intro p hp
      rcases List.mem_append.1 hp with hp | hp
      · exact O.snapsPre p hp
      · cases List.mem_singleton.1 hp; exact hmine.1
    · have := I.others_inactive (r := some _) ht Nat.one_ne_zero x hx
      have := cutOf_active hS'
      omega
    · rw [List.pairwise_append]
      refine ⟨O.chain, List.pairwise_singleton _ _, fun p hp q hq => ?_⟩
      cases List.mem_singleton.1 hq
      exact hmine.2 p hp

theorem ord_reach {k : Nat} {s : St} (h : Reach k s) : Ord s := by
  induction h with
  | init => exact ord_init
  | step hr hs ih => exact ord_step (inv_reach hr) ih hs

end Hp
