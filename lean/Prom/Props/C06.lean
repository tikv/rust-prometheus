import Prom.Lemmas.RegRuns

/-
C06 — Registry admission is exact and a failed registration leaves no trace.
First the sequential model: the descriptor loop of `register` is analysed once in `Lemmas/RegLoop.lean`
(`register_cases`), histories in `Lemmas/RegistryInv.lean`. Then (second section) the registry used from several
threads: the replay machine `RM.item`, its reachable states `RReach` and the example traces of `Lemmas/RegRuns.lean`,
analysed in `Lemmas/RegMachine.lean` (`rItem_linInv`, `rReplay`, through which `Lemmas/Replay.lean` applies).
-/
namespace Prom.C06

/-- a refused registration returns the registry *unchanged*: the loop stages the
    dimension hashes and commits them only on success (recording them inside the loop was defect F3,
    DESIGN §12.4). -/
theorem register_fail_noop (r : Reg) (c : Coll) (e : RErr) (h : (r.register c).2 = .error e) :
    (r.register c).1 = r := by
  rcases register_cases r c with ⟨_, _, _, h'⟩ | ⟨_, _, _, _, ⟨_, h'⟩ | ⟨_, h'⟩⟩ <;> rw [h'] at h ⊢
  cases h

/-- a refused unregistration returns the registry unchanged -/
theorem unregister_fail_noop (r : Reg) (c : Coll) (e : RErr) (h : (r.unregister c).2 = .error e) :
    (r.unregister c).1 = r := by
  rcases unregister_cases r c with ⟨_, h'⟩ | ⟨_, h'⟩ <;> rw [h'] at h ⊢
  cases h

/-- admission, exactly: a registration succeeds iff every descriptor passes
    the three registry-level checks, the collector's descriptors are pairwise distinct and agree among
    themselves on the signature of a shared name, and the collector (its id) is not registered. -/
theorem register_ok_iff (r : Reg) (c : Coll) :
    (r.register c).2 = .ok () ↔
      (∀ d ∈ c.descs, DescOk r d) ∧ (c.descs.map (·.id)).Nodup ∧ SelfConsistent c.descs ∧
      r.collectors.any (·.1 == cidOf (c.descs.map (·.id))) = false := by
  rw [← and_assoc, ← and_assoc, and_assoc (b := List.Nodup _)]
  show _ ↔ Accepted r c.descs ∧ _
  rcases register_cases r c with ⟨_, _, hn, h⟩ | ⟨_, _, _, hacc, ⟨hany, h⟩ | ⟨hany, h⟩⟩ <;> rw [h] <;>
    simp [*]

/-- an admitted collector had no descriptor id in use, agreed with every
    recorded dimension hash of its names, clashed with no common label, and had pairwise distinct
    descriptors. -/
theorem register_ok_sound (r : Reg) (c : Coll) (h : (r.register c).2 = .ok ()) :
    (∀ d ∈ c.descs, clashesCommon r.labels d = false ∧ r.descIds.contains d.id = false ∧
        ∀ hh, dimLookup r.dimHashes d.fqName = some hh → hh = d.dimHash) ∧
    (c.descs.map (·.id)).Nodup :=
  have h' := (register_ok_iff r c).1 h
  ⟨h'.1, h'.2.1⟩

/-- the converse of `register_ok_sound`: a collector all of whose descriptors pass the three
    checks (id not in use, recorded dimension hash of the name agrees, no common-label clash), whose
    descriptors are pairwise distinct and agree among themselves on the dimension hash of a shared
    name, and whose collector id is free, IS admitted — registration refuses nothing else. -/
theorem register_ok_complete (r : Reg) (c : Coll)
    (hok : ∀ d ∈ c.descs, DescOk r d) (hnd : (c.descs.map (·.id)).Nodup) (hself : SelfConsistent c.descs)
    (hfree : r.collectors.any (·.1 == (c.descs.map (·.id)).foldl (· + ·) (0 : UInt64)) = false) :
    (r.register c).2 = .ok () :=
  (register_ok_iff r c).2 ⟨hok, hnd, hself, hfree⟩

/-- over ANY history of register / unregister calls (successful or refused)
    starting from an empty registry: the next registration succeeds exactly when no descriptor of the
    collector has the id of a descriptor of a *currently registered* collector, none disagrees in
    its help/label-name signature with a descriptor *ever successfully registered* under the same
    name (`ever` grows only on success and survives unregister), none repeats a common label, the
    collector's own descriptors are distinct and mutually consistent, and the collector is not
    registered. (`WellKeyedHist`: each unregister call names its collector by its descriptors, not by
    a colliding wrapping sum of ids.) -/
theorem admission_exact (labels : Option (List (Str × Str))) (pref : Option Str) (ops : List ROp)
    (hwk : WellKeyedHist ({ labels := labels, pref := pref }, []) ops) (c : Coll) :
    let s := ops.foldl stepR (({ labels := labels, pref := pref } : Reg), ([] : List Desc))
    (s.1.register c).2 = .ok () ↔
      (∀ d ∈ c.descs, clashesCommon labels d = false ∧ d.id ∉ curIds s.1 ∧
        ∀ e ∈ s.2, e.fqName = d.fqName → e.dimHash = d.dimHash) ∧
      (c.descs.map (·.id)).Nodup ∧ SelfConsistent c.descs ∧
      s.1.collectors.any (·.1 == cidOf (c.descs.map (·.id))) = false := by
  intro s
  have inv : RegInv s.1 s.2 := regInv_history ops _ (regInv_init labels pref) hwk
  have hl : s.1.labels = labels := foldl_stepR_labels ops _
  simp only [register_ok_iff, descOk_iff inv, hl]

/-- the error of the descriptor loop is decided by the FIRST offending
    descriptor in the collector's own order: if the loop fails with `e`, the descriptors split as
    `pre ++ d :: post` where the loop accepted every descriptor of `pre` (staging their ids `ids'` and
    signatures `nd'`) and refused `d`; `e` is `AlreadyReg` exactly when `d` clashes with no common label
    and its id is in use, and `Msg` exactly in the other refusal cases: a common-label clash, or - id
    not in use - a dimension hash that disagrees with the recorded signature of the name, or (none
    recorded) with the staged one, or an id repeated inside the collector. (A clash with a common label
    hides an id in use: the label check comes first.) -/
theorem register_err_kind (r : Reg) (ds : List Desc) (ids : List UInt64) (nd : List (Str × UInt64)) (cid : UInt64)
    (e : RErr) (h : regLoop r ds ids nd cid = .error e) :
    ∃ pre d post ids' nd' cid', ds = pre ++ d :: post ∧
      regLoop r pre ids nd cid = .ok (ids', nd', cid') ∧
      ids' = ids ++ pre.map (·.id) ∧ nd' = (pre.map descKv).foldl ins nd ∧
      (∀ x ∈ pre, DescOk r x) ∧
      (e = .alreadyReg ↔ clashesCommon r.labels d = false ∧ r.descIds.contains d.id = true) ∧
      (e = .msg ↔ clashesCommon r.labels d = true ∨
        (r.descIds.contains d.id = false ∧
          ((∃ h, dimLookup r.dimHashes d.fqName = some h ∧ h ≠ d.dimHash) ∨
           (dimLookup r.dimHashes d.fqName = none ∧ ∃ h, dimLookup nd' d.fqName = some h ∧ h ≠ d.dimHash) ∨
           d.id ∈ ids'))) := by
  obtain ⟨pre, d, post, res, hsplit, hok, hx⟩ := (regLoop_err_iff r ds ids nd cid e).1 h
  obtain ⟨rfl, h1, _⟩ := (regLoop_ok_iff r _ _ _ _ _).1 hok
  refine ⟨pre, d, post, _, _, _, hsplit, hok, rfl, rfl, h1, ?_⟩
  rw [← List.contains_iff_mem]
  -- the two kinds exclude each other: `AlreadyReg` needs no clash and the id in use, `Msg` the opposite
  have excl : ∀ {X : Prop}, clashesCommon r.labels d = false ∧ r.descIds.contains d.id = true →
      clashesCommon r.labels d = true ∨ (r.descIds.contains d.id = false ∧ X) → False := by
    rintro _ ⟨hc, hi⟩ (hc' | ⟨hi', _⟩)
    · rw [hc] at hc'; cases hc'
    · rw [hi] at hi'; cases hi'
  rcases (descRefusal_eq_some_iff r _ _ d e).1 hx with ⟨rfl, ha⟩ | ⟨rfl, hm⟩
  · exact ⟨⟨fun _ => ha, fun _ => rfl⟩, ⟨fun he => (by cases he), fun hm => (excl ha hm).elim⟩⟩
  · exact ⟨⟨fun he => (by cases he), fun ha => (excl ha hm).elim⟩, ⟨fun _ => hm, fun _ => rfl⟩⟩

/-- `register_err_kind` as an equivalence (so the split is the only way to fail, and
    each refusal reason does produce its error): the loop fails with `e` iff the descriptors split as
    `pre ++ d :: post`, the loop accepts `pre`, and `d` is refused with `e` against what `pre` staged. -/
theorem register_err_kind_iff (r : Reg) (ds : List Desc) (ids : List UInt64) (nd : List (Str × UInt64)) (cid : UInt64)
    (e : RErr) :
    regLoop r ds ids nd cid = .error e ↔
    ∃ pre d post ids' nd' cid', ds = pre ++ d :: post ∧ regLoop r pre ids nd cid = .ok (ids', nd', cid') ∧
      ((e = .alreadyReg ∧ clashesCommon r.labels d = false ∧ r.descIds.contains d.id = true) ∨
       (e = .msg ∧ (clashesCommon r.labels d = true ∨
        (r.descIds.contains d.id = false ∧
          ((∃ h, dimLookup r.dimHashes d.fqName = some h ∧ h ≠ d.dimHash) ∨
           (dimLookup r.dimHashes d.fqName = none ∧ ∃ h, dimLookup nd' d.fqName = some h ∧ h ≠ d.dimHash) ∨
           ids'.contains d.id = true))))) := by
  simp only [regLoop_err_iff, descRefusal_eq_some_iff, Prod.exists]

/-- `register`, in terms of the descriptors only: the call fails with `e`
    exactly when EITHER the collector's descriptors split as `pre ++ d :: post` with `pre` accepted
    (`Accepted`: each passes the three registry-level checks, ids pairwise distinct, shared names share
    the signature) and `d` - the first offender - refused with `e` (`RefusedWith`: `AlreadyReg` iff no
    common-label clash and id in use; `Msg` for a label clash, a signature disagreeing with the recorded
    one or with an earlier descriptor of the collector, or an id an earlier descriptor has), OR all
    descriptors are accepted, the collector id is taken and `e` is `AlreadyReg`. -/
theorem register_err_first (r : Reg) (c : Coll) (e : RErr) :
    (r.register c).2 = .error e ↔
      (∃ pre d post, c.descs = pre ++ d :: post ∧ Accepted r pre ∧ RefusedWith r pre d e) ∨
      (e = .alreadyReg ∧ Accepted r c.descs ∧
        r.collectors.any (·.1 == cidOf (c.descs.map (·.id))) = true) := by
  rw [← regLoop_start_err_iff]
  rcases register_cases r c with ⟨_, hl, hn, h⟩ | ⟨_, hl, _, hacc, ⟨hany, h⟩ | ⟨hany, h⟩⟩ <;> rw [h, hl]
  · simp [hn]
  · simp [hacc, hany, eq_comm]
  · simp [hany]

/-- re-registering a registered single-descriptor collector (or any collector whose descriptor id
    is in use) fails with `AlreadyReg` -/
theorem register_same_single_alreadyReg (r : Reg) (d : Desc) (fams : List Family)
    (hc : clashesCommon r.labels d = false) (hid : r.descIds.contains d.id = true) :
    (r.register ⟨[d], fams⟩).2 = .error .alreadyReg :=
  (register_err_first r ⟨[d], fams⟩ .alreadyReg).2
    (Or.inl ⟨[], d, [], rfl, ⟨nofun, List.nodup_nil, nofun⟩, Or.inl ⟨rfl, hc, hid⟩⟩)

/-- `register` answers `AlreadyReg` exactly when the descriptor loop
    fails with `AlreadyReg` (its first offending descriptor clashes with no common label and has an id
    in use - an equal descriptor is registered) or the loop succeeds and the collector id is taken (the
    same collector is registered). -/
theorem register_alreadyReg_iff (r : Reg) (c : Coll) :
    (r.register c).2 = .error .alreadyReg ↔
      regLoop r c.descs [] [] 0 = .error .alreadyReg ∨
      ∃ ids nd cid, regLoop r c.descs [] [] 0 = .ok (ids, nd, cid) ∧ r.collectors.any (·.1 == cid) = true := by
  rcases register_cases r c with ⟨_, hl, _, h⟩ | ⟨⟨_, _, _⟩, hl, rfl, _, ⟨hany, h⟩ | ⟨hany, h⟩⟩ <;> rw [h, hl]
  · simp
  · exact ⟨fun _ => Or.inr ⟨_, _, _, rfl, hany⟩, fun _ => rfl⟩
  · simp only [reduceCtorEq, false_or, Except.ok.injEq, Prod.mk.injEq, false_iff]
    rintro ⟨_, _, _, ⟨_, _, rfl⟩, hany'⟩
    rw [hany] at hany'; cases hany'

/-- `register_alreadyReg_iff` on the descriptors: `AlreadyReg` iff the first descriptor that is not
    accepted clashes with no common label and has an id in use, or all are accepted and the collector
    id (the wrapping sum of the descriptor ids) is taken -/
theorem register_alreadyReg_first (r : Reg) (c : Coll) :
    (r.register c).2 = .error .alreadyReg ↔
      (∃ pre d post, c.descs = pre ++ d :: post ∧ Accepted r pre ∧
        clashesCommon r.labels d = false ∧ r.descIds.contains d.id = true) ∨
      (Accepted r c.descs ∧ r.collectors.any (·.1 == cidOf (c.descs.map (·.id))) = true) := by
  rw [register_err_first]
  unfold RefusedWith
  simp only [reduceCtorEq, false_and, or_false, true_and]

/-- `unregister` succeeds exactly when a collector with that collector id is registered -/
theorem unregister_ok_iff (r : Reg) (c : Coll) :
    (r.unregister c).2 = .ok () ↔
      r.collectors.any (·.1 == (distinctIds c.descs []).foldl (· + ·) (0 : UInt64)) = true := by
  rcases unregister_cases r c with ⟨hany, h⟩ | ⟨hany, h⟩ <;> rw [h] <;> simp [hany]

/-- after a successful unregister the collector id is free again and the ids are released -/
theorem unregister_frees (r : Reg) (c : Coll) (h : (r.unregister c).2 = .ok ()) :
    (r.unregister c).1.collectors.any (·.1 == (distinctIds c.descs []).foldl (· + ·) (0 : UInt64)) = false ∧
    ∀ i ∈ distinctIds c.descs [], (r.unregister c).1.descIds.contains i = false := by
  rcases unregister_cases r c with ⟨_, h'⟩ | ⟨_, h'⟩ <;> rw [h'] at h ⊢
  · exact ⟨by simp [List.any_filter], fun i hi => by simp [hi]⟩
  · cases h

/-- a collector that was admitted and then unregistered is
    admitted again: unregister releases exactly its ids and its collector id, and the recorded
    signatures of its names are its own. -/
theorem unregister_then_register_again (r : Reg) (c : Coll) (h : (r.register c).2 = .ok ()) :
    ((r.register c).1.unregister c).2 = .ok () ∧
    (((r.register c).1.unregister c).1.register c).2 = .ok () := by
  obtain ⟨hok, hnd, hself, hfree⟩ := (register_ok_iff r c).1 h
  have hdi : distinctIds c.descs [] = c.descs.map (·.id) := by
    simpa using distinctIds_of_nodup c.descs [] (by simpa using hnd)
  rcases register_cases r c with ⟨_, _, _, h'⟩ | ⟨_, _, _, _, ⟨_, h'⟩ | ⟨_, h'⟩⟩ <;> rw [h'] at h ⊢
  · cases h
  · cases h
  · rcases unregister_cases _ c with ⟨_, h''⟩ | ⟨hany, h''⟩ <;> rw [h'']
    · refine ⟨rfl, (register_ok_iff _ c).2 ⟨fun d hd => ⟨(hok d hd).1, ?_, fun hh hlk => ?_⟩, hnd, hself, ?_⟩⟩
      · have : ∃ a ∈ c.descs, a.id = d.id := ⟨d, hd, rfl⟩
        simp [hdi, this]
      · -- the recorded signature of `d`'s name is that of a descriptor of `c`, which agrees with `d`
        rcases (dimLookup_fold_descs _ _ _ _ hself).1 hlk with ⟨d', hd', hn, rfl⟩ | ⟨hno, _⟩
        · exact hself d' hd' d hd hn
        · exact absurd rfl (hno d hd)
      · simp [hdi, List.any_filter]
    · simp [hdi] at hany

/-- after a successful unregister the collector's families are no longer collected: gather runs over
    the remaining collectors only -/
theorem gather_after_unregister (r : Reg) (c : Coll) (h : (r.unregister c).2 = .ok ()) :
    (r.unregister c).1.gather =
      gatherFams r.pref r.labels ((r.collectors.filter (·.1 != cidOf (distinctIds c.descs []))).flatMap (·.2.fams)) := by
  rcases unregister_cases r c with ⟨_, h'⟩ | ⟨_, h'⟩ <;> rw [h'] at h ⊢
  · rfl
  · cases h

def dA : Desc := ⟨strOfString "m", strOfString "h", [], [], 1, 10⟩
def dB : Desc := ⟨strOfString "m2", strOfString "h", [], [], 2, 20⟩
def dA' : Desc := ⟨strOfString "m", strOfString "other", [⟨strOfString "z", strOfString "1"⟩], [], 3, 11⟩
def r1 : Reg := (({} : Reg).register ⟨[dB], []⟩).1
def isErr (x : Except RErr Unit) (e : RErr) : Bool := match x with | .error e' => e' == e | .ok _ => false
def isOk (x : Except RErr Unit) : Bool := match x with | .ok _ => true | .error _ => false

-- non-vacuity (the witness of defect F3, DESIGN §12.4): a two-descriptor collector refused at its second descriptor
-- leaves the registry exactly as it was, so a later registration under the first name with another help text is
-- admitted.
example : isErr (r1.register ⟨[dA, dB], []⟩).2 .alreadyReg = true ∧
    isOk ((r1.register ⟨[dA, dB], []⟩).1.register ⟨[dA'], []⟩).2 = true := by decide +kernel

def dA'' : Desc := ⟨strOfString "m", strOfString "other", [], [], 4, 11⟩
def dC : Desc := ⟨strOfString "m3", strOfString "h", [], [], 3, 30⟩
def r12 : Reg := (({} : Reg).register ⟨[dA, dB], []⟩).1
def loopOk (x : Except RErr (List UInt64 × List (Str × UInt64) × UInt64)) : Bool := match x with | .ok _ => true | .error _ => false
def rz : Reg := (({ labels := some [(strOfString "z", strOfString "0")] } : Reg).register ⟨[dB], []⟩).1

-- non-vacuity of the error kinds: over a registry with common label `z` holding `dB` (id 2), the collector `[dA, dB]`
-- is refused `AlreadyReg` at its second descriptor; `[dA, dA'']` (same name, other signature) and `[dA, dA]` (id
-- repeated) are refused `Msg` at theirs; `[dA', dB]` is refused `Msg` although `dB`'s id is in use, because `dA'`
-- (label `z`) comes first; registering `[dB]` again answers `AlreadyReg` (id in use). The other way to `AlreadyReg`:
-- over a registry holding the collector `[dA, dB]` (ids 1 and 2, collector id 3), the one-descriptor collector `[dC]`
-- with the unused id 3 passes the loop and is refused because its collector id 3 is taken.
example : isErr (rz.register ⟨[dA, dB], []⟩).2 .alreadyReg = true ∧
    isErr (rz.register ⟨[dA, dA''], []⟩).2 .msg = true ∧
    isErr (rz.register ⟨[dA, dA], []⟩).2 .msg = true ∧
    isErr (rz.register ⟨[dA', dB], []⟩).2 .msg = true ∧
    isErr (rz.register ⟨[dB], []⟩).2 .alreadyReg = true ∧
    loopOk (regLoop r12 [dC] [] [] 0) = true ∧ isErr (r12.register ⟨[dC], []⟩).2 .alreadyReg = true := by decide +kernel

-- non-vacuity of `admission_exact`: a history with a refused multi-descriptor registration and an unregister meets
-- `WellKeyedHist`
example : WellKeyedHist (({} : Reg), []) [.reg ⟨[dB], []⟩, .reg ⟨[dA, dA'], []⟩, .unreg ⟨[dB], []⟩, .reg ⟨[dA], []⟩] := by
  refine ⟨?_, trivial⟩
  intro p hp hc
  revert p
  decide +kernel

/-! ## The registry used from several threads: the replay machine `RM.item` -/

/-- for every accepted run: the registry is exactly what the sequential
    model (`Reg.register` / `Reg.unregister` / `Reg.gather`, to which `register_ok_iff`,
    `register_fail_noop` and `admission_exact` apply) yields when the committed calls are executed one
    at a time in commit order, and the result recorded with every committed call (the string its return
    mark has to repeat: `RM.step` carries it from the commit step to the unlock in the program counter)
    is what the model returns at its place. Each call
    commits at a lock acquisition - a step of the call itself: its write lock (`register`,
    `unregister`), its read lock (`gather`; a pre-checked `unregister` whose collector is not registered:
    a refused unregister changes nothing, `registry_changes_only_under_write_lock`), or the write lock
    that follows a pre-check that found the collector, where it is looked up AGAIN -, so the order is
    consistent with real time: calls racing on one name are admitted exactly as if they had come one
    after the other. -/
theorem registry_linearizable {colls : List Coll} {prog : List (List String)} {s : RM.St}
    (h : RReach colls prog s) : s.colls = colls ∧ specRunR colls {} s.lin = some s.reg := by
  induction h with
  | init => exact ⟨rfl, by simp [RM.init, specRunR]⟩
  | step _ hs ih => exact rItem_linInv ih hs

/-- the states of accepted runs are the continuations (`RRun`) of the initial state -/
theorem rReach_iff_rRun {colls : List Coll} {prog : List (List String)} {s : RM.St} :
    RReach colls prog s ↔ RRun (RM.init colls prog) s :=
  ⟨fun h => by induction h with | init => exact .init | step _ hs ih => exact .step ih hs,
   fun h => by induction h with | init => exact .init | step _ hs ih => exact .step ih hs⟩

/-- every entry of the commit log was appended by a step of its
    own call, between that call's call mark and its return mark: an accepted item that changes the
    log is an EVENT (the lock acquisition) of a thread whose call is open (`pc ≠ none`: the call mark
    has been accepted, the return mark has not), it appends exactly one entry `x`, and `x` carries
    this thread and the index of that open call (which the step does not close: `idx` unchanged).
    Call marks, return marks and the unlock events leave the log as it is. -/
theorem registry_commits_within_call {s s' : RM.St} {it : Conc.Item} (h : RM.item s it = .ok s') :
    s'.lin = s.lin ∨
    ∃ e th x, it = .ev e ∧ s.ths[e.tid]? = some th ∧ th.pc.isSome = true ∧
      s'.lin = s.lin ++ [x] ∧ x.tid = e.tid ∧ x.idx = th.idx ∧
      ∃ th', s'.ths[e.tid]? = some th' ∧ th'.idx = th.idx ∧ th'.ops = th.ops :=
  rReplay.commit_within_call h

/-- the invariant behind the real-time theorem: in every state of an
    accepted run every entry `e` of the commit log belongs to an existing thread, and either to a call
    that has returned (`e.idx <` the thread's call index) or to the thread's current call, which is
    then open or has just completed (`pc.isSome || retv.isSome`): nothing is ever logged for a call
    that has not started -/
theorem registry_log_invariant {colls : List Coll} {prog : List (List String)} {s : RM.St}
    (h : RReach colls prog s) :
    ∀ e ∈ s.lin, ∃ th, s.ths[e.tid]? = some th ∧
      (e.idx < th.idx ∨ (e.idx = th.idx ∧ (th.pc.isSome || th.retv.isSome) = true)) :=
  rReplay.run_inv rfl rfl (rRun_iff_run.1 (rReach_iff_rRun.1 h))

/-- once a call `(t, i)` has returned (state `s`), no later
    step commits anything for it: in every continuation `s'`, all its log entries lie inside the log
    of `s` (which is a prefix of the log of `s'`) -/
theorem registry_returned_call_is_final {s s' : RM.St} (h' : RRun s s') {t i : Nat} {th : Conc.Th RM.RPc}
    (hth : s.ths[t]? = some th) (hret : i < th.idx) {p : Nat} {x : RM.RLin}
    (hx : s'.lin[p]? = some x) (hxt : x.tid = t ∧ x.idx = i) : p < s.lin.length ∧ s.lin <+: s'.lin :=
  ⟨rReplay.run_returned_pos (rRun_iff_run.1 h') hth hret hx hxt, rReplay.run_lin_prefix (rRun_iff_run.1 h')⟩

/-- the commit order of the registry machine is consistent with real
    time. Take any state `s` of an accepted run and any continuation to `s'`. A call (`t`, `i`)
    (`register` / `unregister` / `gather`) that has RETURNED in `s` (`i <` the call index of thread
    `t`) and a call (`t'`, `i'`) that in `s` has not STARTED - thread `t'` has not reached it yet
    (`idx < i'`), or it is the next call of `t'` and `t'` is idle (no call open, none waiting for its
    return mark): wherever the two appear in the later commit log, the first is before the second.
    So a `gather` that begins after a `register` has returned sees it, and one that returned before
    the `register` began does not. -/
theorem registry_real_time_order {colls : List Coll} {prog : List (List String)} {s s' : RM.St}
    (h : RReach colls prog s) (h' : RRun s s')
    {t t' : Nat} {th th' : Conc.Th RM.RPc} (hth : s.ths[t]? = some th) (hth' : s.ths[t']? = some th')
    {i i' : Nat} (hret : i < th.idx)
    (hnot : th'.idx < i' ∨ (i' = th'.idx ∧ th'.pc = none ∧ th'.retv = none))
    {p q : Nat} {x y : RM.RLin} (hx : s'.lin[p]? = some x) (hy : s'.lin[q]? = some y)
    (hxt : x.tid = t ∧ x.idx = i) (hyt : y.tid = t' ∧ y.idx = i') : p < q :=
  rReplay.run_real_time (rRun_iff_run.1 h') hth hret (rRun_no_entry_not_started (rReach_iff_rRun.1 h) hth' hnot) hx hy hxt hyt

/-- `registry_real_time_order` for a call (`t'`, `i'`) that may have started but for which nothing has been
    committed yet in `s` (it has not acquired the lock) -/
theorem registry_real_time_order_uncommitted {s s' : RM.St} (h' : RRun s s')
    {t t' : Nat} {th : Conc.Th RM.RPc} (hth : s.ths[t]? = some th)
    {i i' : Nat} (hret : i < th.idx) (hno : ∀ e ∈ s.lin, ¬ (e.tid = t' ∧ e.idx = i'))
    {p q : Nat} {x y : RM.RLin} (hx : s'.lin[p]? = some x) (hy : s'.lin[q]? = some y)
    (hxt : x.tid = t ∧ x.idx = i) (hyt : y.tid = t' ∧ y.idx = i') : p < q :=
  rReplay.run_real_time (rRun_iff_run.1 h') hth hret hno hx hy hxt hyt

/-- an accepted event that is not a write-lock
    acquisition leaves the registry exactly as it is. In particular the read lock of a pre-checked
    `unregister` - which COMMITS the unregister when the collector is not registered - changes nothing:
    what it commits is a refused unregister (`unregister_fail_noop`). -/
theorem registry_changes_only_under_write_lock {s s' : RM.St} {e : Conc.Ev} (h : RM.step s e = .ok s')
    (hk : e.k ≠ "X") : s'.reg = s.reg := by
  obtain ⟨_, _, _, hv⟩ := rStep_okAll _ h
  cases hv with
  | frame _ _ _ _ _ _ hr => exact hr
  | eff _ _ _ _ _ _ _ _ _ hx => exact hx.resolve_left hk

/-- the pre-check `RM.unregFails` under the read lock is the
    specification's own answer (`true` iff `specApply … (.unregister i)` on the current registry does
    not answer "ok"), and whenever it is `true` performing that unregister returns the registry
    unchanged - so committing it under the READ lock is sound. -/
theorem unregister_precheck_commit_is_noop (colls : List Coll) (r : Reg) (i : Nat) :
    (RM.unregFails colls r i = true ↔ (RM.specApply colls r (.unregister i)).2 ≠ "ok") ∧
    (RM.unregFails colls r i = true → (RM.specApply colls r (.unregister i)).1 = r) :=
  ⟨unregFails_iff colls r i, unregFails_noop colls r i⟩

def cA : Coll := ⟨[dA], []⟩
def rA : Reg := (({} : Reg).register cA).1
def rB : Reg := (rA.unregister cA).1

/-- closed facts about the model on `cA`, `rA`, `rB`: `cA` is admitted to the empty registry, cannot be
    unregistered from it, can be unregistered from `rA`, and not a second time -/
theorem cA_facts : isOk (({} : Reg).register cA).2 = true ∧ isErr (({} : Reg).unregister cA).2 .msg = true ∧
    isOk (rA.unregister cA).2 = true ∧ isErr (rB.unregister cA).2 .msg = true ∧ rB.collectors.isEmpty = true := by
  decide +kernel

theorem isOk_eq {x : Except RErr Unit} (h : isOk x = true) : x = .ok () := by
  cases x with
  | ok u => rfl
  | error e => simp [isOk] at h

theorem isErr_eq {x : Except RErr Unit} {e : RErr} (h : isErr x e = true) : x = .error e := by
  cases x with
  | ok u => simp [isErr] at h
  | error e' =>
    simp only [isErr] at h
    cases e <;> cases e' <;> first | rfl | exact absurd h (by decide)

theorem specApply_reg_cA : RM.specApply [cA] {} (.register 0) = (rA, "ok") := by
  have : ({} : Reg).register cA = (rA, .ok ()) := Prod.ext rfl (isOk_eq cA_facts.1)
  simp [RM.specApply, this]
theorem specApply_unreg_empty : RM.specApply [cA] {} (.unregister 0) = ({}, "err:Msg") := by
  have h := isErr_eq cA_facts.2.1
  have : ({} : Reg).unregister cA = ({}, .error .msg) := Prod.ext (unregister_fail_noop _ _ _ h) h
  simp [RM.specApply, this, RM.showErr]
theorem specApply_unreg_rA : RM.specApply [cA] rA (.unregister 0) = (rB, "ok") := by
  have : rA.unregister cA = (rB, .ok ()) := Prod.ext rfl (isOk_eq cA_facts.2.2.1)
  simp [RM.specApply, this]
theorem specApply_unreg_rB : RM.specApply [cA] rB (.unregister 0) = (rB, "err:Msg") := by
  have h := isErr_eq cA_facts.2.2.2.1
  have : rB.unregister cA = (rB, .error .msg) := Prod.ext (unregister_fail_noop _ _ _ h) h
  simp [RM.specApply, this, RM.showErr]
theorem unregFails_empty : RM.unregFails [cA] {} 0 = true := by
  rw [unregFails_iff, specApply_unreg_empty]; decide
theorem unregFails_rA : RM.unregFails [cA] rA 0 = false := by
  have := unregFails_iff [cA] rA 0
  rw [specApply_unreg_rA] at this
  simpa using this
theorem unregFails_rB : RM.unregFails [cA] rB 0 = true := by
  rw [unregFails_iff, specApply_unreg_rB]; decide

/-- the state after the first 7 items of `unregPresentTrace`, whatever other threads (`rest`, which take no step)
    there are: `cA` is registered, the `unregister` has found it under the read lock and expects the write lock -/
def unregS7 (rest : List (Conc.Th RM.RPc)) : RM.St :=
  { colls := [cA], reg := rA, ths := { ops := ["reg:0", "unreg:0"], idx := 1, pc := some (.unrNeedW 0) } :: rest,
    lin := [⟨0, 0, .register 0, "ok"⟩] }

open Prom.Conc in
/-- the machine accepts an `unregister` that first looks its
    collector up under the READ lock, and both outcomes of that lookup are reachable (collectors
    `[cA]`; the traces are in `Lemmas/RegRuns.lean`):
    (1) `unregAbsentTrace`: the collector is not registered; the call commits `.unregister 0` with
        result "err:Msg" at its read lock, completes at the read unlock and returns "err:Msg" - the
        whole run contains no write lock; the program is finished (`allDone`), the lock is free, the
        log is that one entry, the registry is the empty one it started as;
    (2) `unregPresentTrace`: the collector is registered; after the read-locked section (the first 7
        items) NOTHING has been committed for the unregister (the log is the `register` alone, the
        registry still `rA`) and the thread expects the write lock (`unrNeedW`); the write-locked section
        then commits `.unregister 0` with result "ok", the call returns "ok", the collector is gone;
    (3) `unregGapTrace`: as (2), but another thread's (pre-checked, successful) `unregister` of the same
        collector runs between thread 0's read-locked lookup and its write-locked section: thread 0's
        unregister commits AFTER it, with result "err:Msg", and returns "err:Msg".
    All three end states are `RReach`able, so `registry_linearizable`, `registry_real_time_order`,
    `registry_log_invariant` … apply to them. -/
theorem unregister_precheck_accepted :
    (∃ s, runItems RM.item (RM.init [cA] [["unreg:0"]]) unregAbsentTrace 0 = .ok s ∧
      RReach [cA] [["unreg:0"]] s ∧ allDone s.ths = true ∧
      s.lin = [⟨0, 0, .unregister 0, "err:Msg"⟩] ∧ s.reg = {} ∧ s.lockW = none ∧ s.lockR = []) ∧
    (∃ s1 s, runItems RM.item (RM.init [cA] [["reg:0", "unreg:0"]]) (unregPresentTrace.take 7) 0 = .ok s1 ∧
      s1.lin = [⟨0, 0, .register 0, "ok"⟩] ∧ s1.reg = rA ∧
      s1.ths.map (·.pc) = [some (.unrNeedW 0)] ∧ s1.lockW = none ∧ s1.lockR = [] ∧
      runItems RM.item (RM.init [cA] [["reg:0", "unreg:0"]]) unregPresentTrace 0 = .ok s ∧
      RReach [cA] [["reg:0", "unreg:0"]] s ∧ allDone s.ths = true ∧
      s.lin = [⟨0, 0, .register 0, "ok"⟩, ⟨0, 1, .unregister 0, "ok"⟩] ∧ s.reg = rB ∧
      s.reg.collectors.isEmpty = true ∧ s.lockW = none ∧ s.lockR = []) ∧
    (∃ s, runItems RM.item (RM.init [cA] [["reg:0", "unreg:0"], ["unreg:0"]]) unregGapTrace 0 = .ok s ∧
      RReach [cA] [["reg:0", "unreg:0"], ["unreg:0"]] s ∧ allDone s.ths = true ∧
      s.lin = [⟨0, 0, .register 0, "ok"⟩, ⟨1, 0, .unregister 0, "ok"⟩, ⟨0, 1, .unregister 0, "err:Msg"⟩] ∧
      s.reg = rB ∧ s.lockW = none ∧ s.lockR = []) := by
  -- the common beginning of (2) and (3), run once
  have run7 : ∀ rest, runItems RM.item { colls := [cA], ths := { ops := ["reg:0", "unreg:0"] } :: rest }
      (unregPresentTrace.take 7) 0 = .ok (unregS7 rest) := fun rest => by
    simp [runItems, unregPresentTrace, unregS7, RM.item, RM.step, RM.rEff, Conc.guard, openCall, closeCall,
      repr_0, repr_1, parseOp_unreg_0, parseOp_reg_0, unregFails_rA, specApply_reg_cA, -getElem?_pos,
      List.getElem?_cons_zero]
  refine ⟨RT.accepted runItems_rReach ?_, ?_, RT.accepted runItems_rReach ?_⟩
  · simp [runItems, unregAbsentTrace, RM.init, RM.item, RM.step, RM.rEff, Conc.guard, openCall, closeCall, allDone,
      repr_0, parseOp_unreg_0, unregFails_empty, specApply_unreg_empty, -getElem?_pos, List.getElem?_cons_zero]
  · have h : ∃ s, runItems RM.item (unregS7 []) (unregPresentTrace.drop 7) 7 = .ok s ∧ allDone s.ths = true ∧
        s.lin = [⟨0, 0, .register 0, "ok"⟩, ⟨0, 1, .unregister 0, "ok"⟩] ∧ s.reg = rB ∧
        s.reg.collectors.isEmpty = true ∧ s.lockW = none ∧ s.lockR = [] := by
      simp [runItems, unregPresentTrace, unregS7, RM.item, RM.step, RM.rEff, Conc.guard, closeCall, allDone,
        repr_1, specApply_unreg_rA, -getElem?_pos, List.getElem?_cons_zero]
      exact List.isEmpty_iff.1 cA_facts.2.2.2.2
    obtain ⟨s, hr, h7⟩ := h
    have hr' : runItems RM.item (RM.init [cA] [["reg:0", "unreg:0"]]) unregPresentTrace 0 = .ok s :=
      (RT.runItems_of_take 7 (run7 []) 7).trans hr
    exact ⟨unregS7 [], s, run7 [], rfl, rfl, rfl, rfl, rfl, hr', runItems_rReach hr', h7⟩
  · -- the same 7 items, with thread 1 standing by
    rw [show runItems RM.item (RM.init [cA] [["reg:0", "unreg:0"], ["unreg:0"]]) unregGapTrace 0 = _ from
      RT.runItems_of_take (tr := unregGapTrace) 7 (run7 [{ ops := ["unreg:0"] }]) 7]
    simp [runItems, unregGapTrace, unregS7, RM.item, RM.step, RM.rEff, Conc.guard, openCall, closeCall, allDone,
      repr_0, repr_1, parseOp_unreg_0, unregFails_rA, specApply_unreg_rA, specApply_unreg_rB, -getElem?_pos,
      List.getElem?_cons_zero, List.getElem?_cons_succ]

end Prom.C06
