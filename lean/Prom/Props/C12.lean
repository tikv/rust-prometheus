import Prom.Lemmas.LocalWorlds
import Prom.Lemmas.LocalVec

/-
C12 — Local (unsync) metrics hand over exactly what they accumulated.
Over any operation list and any number of handles (handles are list positions; clones and new locals
append): counters and histograms (`Lemmas/LocalWorlds.lean`), local vectors (`Lemmas/LocalVec.lean`).
-/
namespace Prom.C12

/-- DESIGN §5 "shared_eq_direct_plus_flushed", counter: over any history and any number of handles:
    shared value + everything still pending locally + everything deliberately discarded
    = everything that was ever added. Nothing is lost or counted twice. -/
theorem counter_conservation (ops : List COp) : CInv (ops.foldl CW.step {}) :=
  List.foldlRecOn ops CW.step (by simp [CInv]) fun w h op _ => cstep_inv w op h

/-- DESIGN §5 "pending_eq_accumulated_since", counter: a flush adds to the shared counter exactly what the handle accumulated since its previous
    flush or reset, and leaves the handle empty -/
theorem flush_exact (w : CW) (h p : Nat) (hl : w.locals[h]? = some p) :
    (w.step (.lflush h)).shared = w.shared + p ∧ (w.step (.lflush h)).locals[h]? = some 0 := by
  simp only [CW.step, hl]
  by_cases hp : (p == 0) = true
  · have : p = 0 := by simpa using hp
    subst this
    simp [hl]
  · simp [hp, lt_of_getElem? hl]

/-- a second flush adds nothing -/
theorem flush_idempotent (w : CW) (h : Nat) :
    (w.step (.lflush h)).step (.lflush h) = w.step (.lflush h) := by
  cases hl : w.locals[h]? with
  | none => simp [CW.step, hl]
  | some p =>
    by_cases hp : p = 0
    · subst hp; simp [CW.step, hl]
    · have hlt := lt_of_getElem? hl
      have hstep : w.step (.lflush h) = { w with shared := w.shared + p, locals := w.locals.set h 0 } := by
        simp [CW.step, hl, hp]
      rw [hstep]
      simp [CW.step, hlt]

/-- reset touches neither the shared counter nor other handles -/
theorem reset_discards_only_local (w : CW) (h : Nat) :
    (w.step (.lreset h)).shared = w.shared ∧
    ∀ j, j ≠ h → (w.step (.lreset h)).locals[j]? = w.locals[j]? := by
  simp only [CW.step]
  cases hl : w.locals[h]? with
  | none => simp
  | some p =>
    refine ⟨rfl, ?_⟩
    intro j hj
    simp [Ne.symm hj]

/-- a clone starts with nothing pending and takes nothing from the original -/
theorem clone_empty (w : CW) (h p : Nat) (hl : w.locals[h]? = some p) :
    (w.step (.lclone h)).locals = w.locals ++ [0] ∧ (w.step (.lclone h)).shared = w.shared := by
  simp [CW.step, hl]

/-- DESIGN §5 "shared_eq_direct_plus_flushed", histogram: over any history: shared sample count +
    observations pending in live local handles + observations discarded by `clear`
    = all observations. In particular a dropped handle's observations are in the shared histogram. -/
theorem histogram_conservation (add) (bounds : List UInt64) (ops : List HOp) :
    HInv (ops.foldl (HW.step add) { shared := Hist.new bounds, locals := [] }) :=
  List.foldlRecOn ops (HW.step add) (by simp [HInv, Hist.new, pendingCount])
    fun w h op _ => hstep_inv add w op h

/-- dropping a local histogram leaves the shared histogram exactly as a
    flush would -/
theorem drop_flushes_histogram (add) (w : HW) (h : Nat) :
    (w.step add (.ldrop h)).shared = (w.step add (.lflush h)).shared := by
  simp only [HW.step]
  cases hl : w.locals[h]? with
  | none => rfl
  | some o => cases o <;> rfl

/-- DESIGN §5 "flush_idempotent", histogram: a second flush leaves the shared histogram as the first left it -/
theorem hist_flush_idempotent (add) (w : HW) (h : Nat) :
    ((w.step add (.lflush h)).step add (.lflush h)).shared = (w.step add (.lflush h)).shared := by
  simp only [HW.step]
  cases hl : w.locals[h]? with
  | none => simp [hl]
  | some o =>
    cases o with
    | none => simp [hl]
    | some l =>
      simp [lt_of_getElem? hl, Hist.absorb, LH.empty]

/-- DESIGN §5 "clone_empty", histogram: `Clone` clears the copy -/
theorem hist_clone_empty (add) (w : HW) (h : Nat) (l : LH) (hl : w.locals[h]? = some (some l)) :
    (w.step add (.lclone h)).locals = w.locals ++ [some (LH.empty w.shared.bounds.length)] ∧
    (w.step add (.lclone h)).shared = w.shared := by
  simp [HW.step, hl]

/-- per bucket: a flush adds the local bucket counts position-wise -/
theorem absorb_counts (add) (h : Hist) (l : LH) (hc : l.count ≠ 0) :
    (h.absorb add l).counts = addCounts h.counts l.counts ∧ (h.absorb add l).sum = add h.sum l.sum := by
  rw [C08.absorb_of_ne add h hc]
  exact ⟨rfl, rfl⟩

/-- DESIGN §5 "drop_flushes_histogram", vector: dropping a local histogram vector delivers every cached
    local's pending observations to its child, as a flush would -/
theorem vec_drop_flushes (w : VW) (h : Nat) (hf : w.flushOnDrop = true) :
    (w.ldrop h).v = (w.lflush h).v := by
  unfold VW.ldrop VW.lflush
  cases hl : w.locals[h]? with
  | none => rfl
  | some o => cases o <;> simp [hf]

/-- DESIGN §5 "clone_empty", vector: a cloned local vector starts with an empty cache and leaves the shared
    vector as it is -/
theorem vec_clone_empty (w : VW) (h : Nat) (lv : LVec) (hl : w.locals[h]? = some (some lv)) :
    (w.lclone h).locals = w.locals ++ [some ({} : LVec)] ∧ (w.lclone h).v = w.v := by
  simp [VW.lclone, hl]

/-! Local vectors, whole histories (`VOpL`, `VW.step` and the ghost quantities: Lemmas/LocalVec.lean).

What is conserved is the value of all children EVER created (`MVec.store`), not of the children
currently attached (`MVec.collect`): `remove`/`reset` detach a child but handles and caches keep
updating it, see `vec_collect_not_conserved`. -/

/-- every reachable state is well-formed (ids denote stored children, cache keys are distinct) -/
theorem vec_wf (names consts bf fod) (ops : List VOpL) :
    VWf (ops.foldl VW.step (VW.fresh names consts bf fod)) :=
  run_wf _ (fresh_wf ..) ops

/-- DESIGN §5 "shared_eq_direct_plus_flushed", vector, general form: from any well-formed state, for any
    selection `sel` of child ids, over any history and any number of handles:
    value held by the selected children ever created + amounts pending for them in live local caches
    + amounts discarded = the same before the history + the accepted updates booked on them. -/
theorem vec_conservation_from (sel : Nat → Bool) (w : VW) (hw : VWf w) (ops : List VOpL) :
    (ops.foldl VW.step w).held sel + w.totalDiscarded sel ops = w.held sel + w.totalIn sel ops := by
  induction ops generalizing w with
  | nil => rfl
  | cons op r ih =>
    obtain ⟨hw', h2⟩ := step_facts sel w hw op
    have h1 := ih _ hw'
    simp only [List.foldl_cons, VW.totalDiscarded, VW.totalIn]
    omega

/-- DESIGN §5 "shared_eq_direct_plus_flushed", vector: over any history on a new vector with any number of
    local handles: total value of all children ever created (direct updates + flushed batches)
    + everything still pending in live local caches + everything deliberately discarded
    = the sum of all amounts passed to accepted `lwith`/`swith`.  Nothing is lost or counted twice. -/
theorem vec_conservation (names consts bf fod) (ops : List VOpL) :
    (ops.foldl VW.step (VW.fresh names consts bf fod)).v.storeTotal
      + pendingTotal (ops.foldl VW.step (VW.fresh names consts bf fod)).locals
      + (VW.fresh names consts bf fod).totalDiscarded (fun _ => true) ops
    = (VW.fresh names consts bf fod).totalIn (fun _ => true) ops := by
  have h := vec_conservation_from (fun _ => true) _ (fresh_wf names consts bf fod) ops
  rw [held_all, fresh_held] at h
  omega

/-- the account of `vec_conservation` for every single child id: its value + what is pending for it
    in live caches + what was discarded of it = the accepted updates booked on it (`lwith` books on
    the cached child of the key if there is one, else on the child `get_or_create` returns). -/
theorem vec_conservation_child (names consts bf fod) (ops : List VOpL) (id : Nat) :
    (ops.foldl VW.step (VW.fresh names consts bf fod)).v.valOf id
      + localsHeld (fun i => i == id) (ops.foldl VW.step (VW.fresh names consts bf fod)).locals
      + (VW.fresh names consts bf fod).totalDiscarded (fun i => i == id) ops
    = (VW.fresh names consts bf fod).totalIn (fun i => i == id) ops := by
  have h := vec_conservation_from (fun i => i == id) _ (fresh_wf names consts bf fod) ops
  rw [held_single, fresh_held] at h
  omega

/-- the histogram flavour loses nothing: with `flushOnDrop` nothing is ever discarded: the children
    ever created plus the live caches hold exactly what was put in; in particular everything a
    dropped or removed local had accumulated is in the shared vector. -/
theorem vec_conservation_histogram (names consts bf) (ops : List VOpL) :
    (ops.foldl VW.step (VW.fresh names consts bf true)).v.storeTotal
      + pendingTotal (ops.foldl VW.step (VW.fresh names consts bf true)).locals
    = (VW.fresh names consts bf true).totalIn (fun _ => true) ops := by
  have h := vec_conservation names consts bf true ops
  rw [totalDiscarded_of_flushOnDrop _ _ rfl] at h
  omega

/-- DESIGN §5 "pending_eq_accumulated_since", vector: a flush adds to every child exactly what the handle has pending for
    it (accumulated since its previous flush), leaves the handle with nothing pending, and keeps the
    cached keys and child ids. -/
theorem vec_flush_exact (w : VW) (hw : VWf w) (h : Nat) (lv : LVec) (hl : w.locals[h]? = some (some lv)) :
    (∀ id, (w.lflush h).v.valOf id = w.v.valOf id + cacheHeld (fun i => i == id) lv.cache) ∧
    (w.lflush h).v.storeTotal = w.v.storeTotal + optPending (some lv) ∧
    (w.lflush h).locals[h]? = some (some ⟨lv.cache.map fun e => (e.1, e.2.1, 0)⟩) ∧
    optPending ((w.lflush h).locals[h]?.getD none) = 0 := by
  have hok := hw.cache hl
  have hlt := lt_of_getElem? hl
  rw [lflush_live hl]
  refine ⟨fun id => ?_, ?_, by simp [hlt], ?_⟩
  · simpa only [storeHeld_single] using (adds_flushCache (fun i => i == id) hok.2).held
  · simpa only [storeHeld_all, cacheHeld_all, optPending] using (adds_flushCache (fun _ => true) hok.2).held
  · have := (cache_zeroed (fun _ => true) hok).2
    rw [cacheHeld_all, List.map_map] at this
    simp [hlt, optPending, this]

/-- DESIGN §5 "flush_idempotent", vector: a second flush changes nothing at all -/
theorem vec_flush_idempotent (w : VW) (h : Nat) : (w.lflush h).lflush h = w.lflush h := by
  match hl : w.locals[h]? with
  | none | some none =>
    have e : w.lflush h = w := by simp only [VW.lflush, hl]
    rw [e, e]
  | some (some lv) =>
    -- the second flush finds the zeroed cache
    rw [lflush_live hl, lflush_live (List.getElem?_set_self (lt_of_getElem? hl)), flushCache_zero, List.set_set,
      List.map_map]
    · rfl
    · intro e he
      obtain ⟨e0, _, rfl⟩ := List.mem_map.1 he
      rfl

/-- dropping a local counter vector leaves the shared vector
    untouched: what it had pending is discarded (and accounted for in `totalDiscarded`) -/
theorem vec_drop_discards (w : VW) (h : Nat) (hf : w.flushOnDrop = false) :
    (w.ldrop h).v = w.v ∧
    ∀ lv, w.locals[h]? = some (some lv) → w.discards (fun _ => true) (.ldrop h) = optPending (some lv) := by
  constructor
  · unfold VW.ldrop
    cases hl : w.locals[h]? with
    | none => rfl
    | some o => cases o <;> simp [hf]
  · intro lv hl
    simp [VW.discards, hf, hl, optPending, cacheHeld_all]

-- non-vacuity (counter flavour): two handles on one key; handle 1 removes the key (discarding its
-- 2), handle 0 keeps updating the detached child 0 through its cache, a direct update recreates the
-- key as child 1; handle 1 is dropped with 4 pending; a dropped handle and a wrong cardinality put
-- in nothing.  15 in = 8 + 1 in the children + 0 pending + 6 discarded; `collect` shows only 1.
example :
    let a : List Str := [[97]]
    let ops : List VOpL := [.lnew, .lwith 0 a 3, .lclone 0, .lwith 1 a 2, .lflush 0, .lremove 1 a,
      .lwith 0 a 5, .swith a 1, .lflush 0, .lwith 1 a 4, .ldrop 1, .lwith 1 a 9, .lwith 0 [] 9]
    let w0 := VW.fresh [[108]] [] false false
    let w := ops.foldl VW.step w0
    w.v.store.map (·.val) = [8, 1] ∧ pendingTotal w.locals = 0 ∧
    w0.totalIn (fun _ => true) ops = 15 ∧ w0.totalDiscarded (fun _ => true) ops = 6 ∧
    w.v.collect.map (·.val) = [1] := by decide +kernel

-- the same history in histogram flavour: nothing discarded, 15 = 10 + 5
example :
    let a : List Str := [[97]]
    let ops : List VOpL := [.lnew, .lwith 0 a 3, .lclone 0, .lwith 1 a 2, .lflush 0, .lremove 1 a,
      .lwith 0 a 5, .swith a 1, .lflush 0, .lwith 1 a 4, .ldrop 1, .lwith 1 a 9, .lwith 0 [] 9]
    let w0 := VW.fresh [[108]] [] false true
    let w := ops.foldl VW.step w0
    w.v.store.map (·.val) = [10, 5] ∧ pendingTotal w.locals = 0 ∧
    w0.totalIn (fun _ => true) ops = 15 ∧ w0.totalDiscarded (fun _ => true) ops = 0 := by decide +kernel

/-- why "children ever created": the statement with the *collected* (attached) children instead
    is false: handle 0 accumulates 3 for a key, handle 1 removes the key, handle 0 flushes into the
    detached child.  Nothing is pending, nothing was discarded, 3 went in, `collect` is empty. -/
theorem vec_collect_not_conserved :
    let a : List Str := [[97]]
    let ops : List VOpL := [.lnew, .lnew, .lwith 0 a 3, .lremove 1 a, .lflush 0]
    let w0 := VW.fresh [[108]] [] false false
    let w := ops.foldl VW.step w0
    (w.v.collect.map (·.val)).sum = 0 ∧ pendingTotal w.locals = 0 ∧
    w0.totalDiscarded (fun _ => true) ops = 0 ∧ w0.totalIn (fun _ => true) ops = 3 ∧
    w.v.storeTotal = 3 := by decide +kernel

/-- why well-formedness: `MVec.bump` on an id that denotes no stored child does nothing, so from
    an ill-formed state (a cache entry with a dangling child id) a flush loses the pending amount. -/
theorem vec_illformed_loses :
    let w : VW := { v := { names := [], consts := [], buildFails := false, children := [], store := [] },
                    locals := [some ⟨[(0, 5, 7)]⟩], flushOnDrop := false }
    w.held (fun _ => true) = 7 ∧ (w.step (.lflush 0)).held (fun _ => true) = 0 ∧
    w.totalDiscarded (fun _ => true) [.lflush 0] = 0 := by decide +kernel

-- non-vacuity: a history with two handles, a clone, a reset, flushes
example : (([.lnew, .linc 0 3, .lclone 0, .linc 1 2, .lflush 0, .lflush 0, .lreset 1, .sinc 4, .lflush 1] : List COp).foldl CW.step {})
    = { shared := 7, locals := [0, 0], totalIn := 9, discarded := 2 } := by decide +kernel

end Prom.C12
