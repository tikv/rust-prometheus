import Prom.Lemmas.Text.Escape
import Prom.Lemmas.TextRT.Lines
import Prom.Lemmas.TextRT.Group
import Prom.Lemmas.TextRT.Parses
/-
C04 — Text exposition is a faithful, parseable rendering of the gathered state.
`fmt` (Rust's `f64::to_string`) is a parameter; what the theorems assume of it is `RT.FmtOk`.
-/
namespace Prom.C04
open Prom.Text Prom.TextParse

/-- the fast path (copy up to the first special byte) is equivalent to escaping every byte -/
theorem escape_eq_flatMap (q : Bool) (v : Str) : escapeString q v = v.flatMap (escByte q) :=
  Esc.escape_eq_flatMap q v

/-- a reader that undoes `\\`, `\n` (and `\"` for label values) recovers
    exactly the original bytes, whatever they are (quotes, backslashes, newlines, CR, NUL,
    multi-byte characters, a literal backslash followed by `n`, …) -/
theorem unescape_escape (q : Bool) (v : Str) : unescape q (escapeString q v) = some v :=
  Esc.unescape_escape q v

/-- an escaped help text or label value never contains a line feed: no
    help text or label value can add or end a line -/
theorem escape_no_newline (q : Bool) (v : Str) : (10 : UInt8) ∉ escapeString q v :=
  Esc.escape_no_newline q v

/-- in label-value mode every quote in the output is escaped: reading the quoted value stops exactly
    at the closing quote the encoder writes, and returns the escaped text unchanged -/
theorem quoted_value_reads_back (v : Str) (rest : Str) :
    ∀ acc, readQuoted (v.flatMap (escByte true) ++ 34 :: rest) acc = some (acc.reverse ++ v.flatMap (escByte true), rest) :=
  Esc.quoted_value_reads_back v rest

/-- label value round trip: quoted reader + unescape recover the value -/
theorem label_value_roundtrip (v rest : Str) :
    (readQuoted (escapeString true v ++ 34 :: rest) []).bind (fun p => (unescape true p.1).map (fun x => (x, p.2)))
      = some (v, rest) :=
  Esc.label_value_roundtrip v rest

/-- `encode` only appends: the model returns the bytes appended to the caller's buffer
    and has no access to what the buffer held; what it returns for `f :: r` begins with the header of `f`,
    also when a later family or sample is refused -/
theorem append_only (fmt : UInt64 → Str) (f : Family) (r : List Family) (hs : f.samples.isEmpty = false) (hn : f.name.isEmpty = false) :
    ∃ t, (encode fmt (f :: r)).1 = header f ++ t := by
  unfold encode
  simp only [hs, hn, Bool.or_self, Bool.false_eq_true, if_false]
  split
  · exact ⟨_, rfl⟩
  · exact ⟨(samplesText fmt f.name f.ty f.samples).1 ++ (encode fmt r).1, by simp [List.append_assoc]⟩

/-- the header of a family is exactly one `# TYPE` line plus one `# HELP` line iff
    the help is non-empty — whatever bytes the help contains -/
theorem header_lines (f : Family) (hname : (10 : UInt8) ∉ f.name) :
    lfCount (header f) = (if f.help.isEmpty then 0 else 1) + 1 := by
  rw [RT.header_eq, lfCount, RT.count_lf_joinLines _ (RT.headerLines_no_lf f hname), RT.headerLines]
  split <;> rfl

-- non-vacuity of `unescape_escape`: a value with a backslash before a multi-byte character, a quote, LF and a
-- literal backslash-n
example : unescape true (escapeString true (bs "C:\\é\"x\"\n\\n")) = some (bs "C:\\é\"x\"\n\\n") :=
  unescape_escape _ _

/-- the output is exactly the document's lines, each followed by one LF (nothing else is written) -/
theorem output_is_lines (fmt : UInt64 → Str) (fams : List Family)
    (h : ∀ f ∈ fams, f.samples ≠ [] ∧ f.name ≠ [] ∧ f.ty ≠ .untyped) :
    encode fmt fams = (RT.joinLines (RT.docLines fmt fams), true) := by
  induction fams with
  | nil => rfl
  | cons f r ih =>
    obtain ⟨hs, hn, hty⟩ := h f (by simp)
    have ih' := ih (fun g hg => h g (by simp [hg]))
    have h1 : f.samples.isEmpty = false := by simpa [List.isEmpty_iff] using hs
    have h2 : f.name.isEmpty = false := by simpa [List.isEmpty_iff] using hn
    simp only [encode, h1, h2, RT.samplesText_eq fmt f.name f.ty hty, ih', RT.docLines, RT.famLines,
      List.flatMap_cons, RT.joinLines_append, RT.header_eq]
    simp

/-- for well-formed families (`RT.WF`: valid metric and label names, help not
    starting with a blank or tab, a supported type, at least one sample, value slots matching the
    type) the bytes the encoder writes are read back by the independent text-format reader to exactly
    the same families: same order, names, help, types, label lists and sample values (finite values
    bit-exact, ±Inf preserved, every NaN as NaN), timestamps, each histogram as its cumulative buckets
    plus a `+Inf` bucket equal to the count (unless a `+Inf` bound is already among them), then sum
    and count — whatever bytes the help texts and label values consist of.
    Hypotheses about code outside the crate, restricted to the values that occur: `FmtOk`
    (`f64::to_string` reads back to the same value under the exact decimal reader and contains no
    blank, LF, quote or backslash — checked by the driver for every value of every run) and `CountsOk`
    (`u64 as f64` is exact for the counts that occur, i.e. below 2^53). Integer timestamps need no
    hypothesis (`RT.int_roundtrip`). -/
theorem roundtrip (fmt : UInt64 → Str) (fams : List Family) (hwf : RT.WF fams)
    (hf : RT.FmtOk fmt (RT.valuesOf fams)) (hc : RT.CountsOk (RT.countsOf fams)) :
    (encode fmt fams).2 = true ∧ parse (encode fmt fams).1 = some (canon fams) := by
  have hp := RT.parses_doc fmt fams hwf hf
  rw [output_is_lines fmt fams (RT.wf_encodable hwf)]
  refine ⟨rfl, ?_⟩
  unfold parse
  simp only [RT.splitLines_join _ hp.no_lf, hp.mapM]
  exact RT.group_doc fmt fams hwf hf hc

/-- the number of lines of the exposition is a function of the shape of the
    families only (help present or not, type, number of samples / buckets / quantiles): no help
    text, label value or number can add or remove a line -/
theorem lines_shape (fmt : UInt64 → Str) (fams : List Family) (hwf : RT.WF fams) (hf : RT.FmtOk fmt (RT.valuesOf fams)) :
    (encode fmt fams).1.count 10 = (fams.map RT.famLineCount).sum := by
  rw [output_is_lines fmt fams (RT.wf_encodable hwf), RT.count_lf_joinLines _ (RT.parses_doc fmt fams hwf hf).no_lf]
  simp only [RT.docLines, List.length_flatMap, RT.famLines_length]

def exFams : List Family :=
  [{ name := bs "req:total", help := bs "h\n\"q\"\\", ty := MType.counter,
     samples := [{ labels := [⟨bs "l", bs "é\\\"x"⟩], val := MVal.counter 0x3FF0000000000000, ts := -5 }] }]
def exFmt : UInt64 → Str := fun v => if v == 0x3FF0000000000000 then bs "1" else bs "?"

-- non-vacuity of `roundtrip`: a counter family whose help contains LF, a quote and a backslash and whose label value
-- contains a multi-byte character, a backslash and a quote, with value 1.0 and a negative timestamp, meets every
-- hypothesis (the formatter `exFmt` maps the one value that occurs to "1")
example : (encode exFmt exFams).2 = true ∧ parse (encode exFmt exFams).1 = some (canon exFams) := by
  refine roundtrip exFmt exFams ?_ ⟨by decide +kernel, by decide +kernel⟩ (fun n hn => by cases hn)
  intro f hf
  obtain rfl := List.mem_singleton.1 hf
  refine ⟨by decide +kernel, fun b r h => ?_, by decide, by decide, by decide +kernel, by decide +kernel⟩
  -- the help text starts with `h`
  rw [show (bs "h\n\"q\"\\") = [104, 10, 34, 113, 34, 92] by decide +kernel] at h
  cases h
  decide

end Prom.C04
