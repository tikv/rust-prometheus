import Prom.Lemmas.Desc
import Prom.Lemmas.Utf8
import Prom.Gen.Consts
/-
C15 — Descriptor identity is structural (up to collisions of the 64-bit FNV hash, as the
property says: statements are about the *bytes fed to the hasher*).
-/
namespace Prom.C15

/-- the bytes fed to the id hasher are equal exactly when the fully-qualified names are equal and the const-label
    values, taken in label-name order, are equal. (Hypothesis: strings are UTF-8, hence free of 0xFF — `utf8_noFF`.) -/
theorem id_bytes_inj (fq fq' : Str) (vs vs' : List Str)
    (h1 : NoFF fq) (h2 : NoFF fq') (h3 : ∀ v ∈ vs, NoFF v) (h4 : ∀ v ∈ vs', NoFF v) :
    idBytes fq vs = idBytes fq' vs' ↔ fq = fq' ∧ vs = vs' := by
  rw [idBytes, idBytes, sepEnc_inj_iff sep _ _ (List.forall_mem_cons.2 ⟨h1, h3⟩) (List.forall_mem_cons.2 ⟨h2, h4⟩),
    List.cons.injEq]

/-- the bytes fed to the dimension hasher are equal exactly when the help texts are equal and the sorted name lists
    (`const` names and `$`-prefixed variable names) are equal. -/
theorem dim_bytes_inj (help help' : Str) (ns ns' : List Str)
    (h1 : NoFF help) (h2 : NoFF help') (h3 : ∀ v ∈ ns, NoFF v) (h4 : ∀ v ∈ ns', NoFF v) :
    dimBytes help ns = dimBytes help' ns' ↔ help = help' ∧ ns = ns' := by
  rw [dimBytes, dimBytes, sepEnc_inj_iff sep _ _ (List.forall_mem_cons.2 ⟨h1, h3⟩) (List.forall_mem_cons.2 ⟨h2, h4⟩),
    List.cons.injEq]

/-- every string the library can be given is UTF-8, and UTF-8 has no 0xFF byte: the `NoFF` hypotheses of
    `id_bytes_inj` and `dim_bytes_inj` hold for all Rust strings. -/
theorem all_strings_noFF (cs : List Char) : NoFF (cs.flatMap String.utf8EncodeChar) := utf8_noFF cs

/-- moving a character across the boundary between the name and the first value (or between two values) changes the
    hashed bytes. -/
theorem boundary_shift_distinct (a b : Str) (c : UInt8) (rest : List Str)
    (ha : NoFF a) (hb : NoFF b) (hc : c ≠ 0xFF) (hr : ∀ v ∈ rest, NoFF v) :
    idBytes (a ++ [c]) (b :: rest) ≠ idBytes a ((c :: b) :: rest) := by
  intro h
  have hac : NoFF (a ++ [c]) := noSep_append.2 ⟨ha, noSep_cons.2 ⟨hc, fun _ h => nomatch h⟩⟩
  have := (id_bytes_inj _ _ _ _ hac ha (List.forall_mem_cons.2 ⟨hb, hr⟩)
    (List.forall_mem_cons.2 ⟨noSep_cons.2 ⟨hc, hb⟩, hr⟩)).1 h
  -- the two names differ in length
  simpa using congrArg List.length this.1

/-- the name set built by `Desc::new` contains exactly the const names and the `$`-prefixed variable
    names. -/
theorem names_are_the_sets (vl : List Str) (cl : List (Str × Str)) (cn names : List Str)
    (hc : constNames cl [] = some cn) (hv : varNames vl cn = some names) :
    ∀ x, x ∈ names ↔ x ∈ cl.map (·.1) ∨ x ∈ vl.map (dollar :: ·) := by
  intro x
  rw [varNames_mem vl cn names hv x, constNames_mem cl [] cn hc x]
  simp

/-- const names and variable names cannot be confused in the dimension signature: a valid label
    name never starts with `$`. -/
theorem const_var_disjoint {n : Str} (h : isValidLabelName n = true) (m : Str) : n ≠ dollar :: m :=
  valid_not_dollar h m

-- what the separator buys: plain concatenation is not injective (hashing it was defect F1, DESIGN §12.4); the
-- separator-terminated encoding tells the two apart
example : (strOfString "ab" ++ strOfString "c") = (strOfString "a" ++ strOfString "bc") := by
  decide +kernel
example : sepEnc sep [strOfString "ab", strOfString "c"] ≠ sepEnc sep [strOfString "a", strOfString "bc"] := by
  decide +kernel

/-- DESIGN §5 "order_free", const labels: `Desc::new` returns the *same descriptor* (id, dimension hash,
    sorted const-label pairs, everything) for every iteration order of the const-label map: the
    result depends on neither the insertion order nor the hash seed of the `HashMap`. -/
theorem order_free_const (fq help : Str) (vl : List Str) (cl cl' : List (Str × Str)) (hp : cl.Perm cl') :
    Desc.new fq help vl cl = Desc.new fq help vl cl' := by
  -- both sides accept under the same conditions, and then build the same descriptor
  have key : ∀ {cl cl' : List (Str × Str)}, cl.Perm cl' → ∀ d, Desc.new fq help vl cl = some d → Desc.new fq help vl cl' = some d := by
    intro cl cl' hp d h
    obtain ⟨h1, h2, h3, h4, h5, rfl⟩ := (Desc.new_eq_some_iff ..).1 h
    exact (Desc.new_eq_some_iff ..).2 ⟨h1, h2, fun p hp' => h3 p (hp.mem_iff.2 hp'), h4,
      ((hp.map _).append_right vl).nodup_iff.1 h5, Desc.built_perm_const fq help vl hp (List.nodup_append.1 h5).1⟩
  exact Option.ext fun d => ⟨key hp d, key hp.symm d⟩

/-- DESIGN §5 "order_free", variable labels: acceptance, identity and dimension signature do not depend on
    the order in which the variable labels are listed (the descriptor keeps the given order only in
    its `variable_labels` field) -/
theorem order_free_vars (fq help : Str) (vl vl' : List Str) (cl : List (Str × Str)) (hp : vl.Perm vl') :
    (Desc.new fq help vl cl).map (fun d => (d.id, d.dimHash, d.constPairs)) =
    (Desc.new fq help vl' cl).map (fun d => (d.id, d.dimHash, d.constPairs)) := by
  have key : ∀ {vl vl' : List Str}, vl.Perm vl' → ∀ x,
      (Desc.new fq help vl cl).map (fun d => (d.id, d.dimHash, d.constPairs)) = some x →
      (Desc.new fq help vl' cl).map (fun d => (d.id, d.dimHash, d.constPairs)) = some x := by
    intro vl vl' hp x h
    obtain ⟨d, hd, rfl⟩ := Option.map_eq_some_iff.1 h
    obtain ⟨h1, h2, h3, h4, h5, rfl⟩ := (Desc.new_eq_some_iff ..).1 hd
    refine Option.map_eq_some_iff.2 ⟨_, (Desc.new_eq_some_iff ..).2 ⟨h1, h2, h3, fun n hn => h4 n (hp.mem_iff.2 hn),
      (hp.append_left _).nodup_iff.1 h5, rfl⟩, ?_⟩
    -- only the name set mentions the variable labels, and it does not depend on their order
    simp only [Desc.built, insertAll_perm_eq (hp.map (dollar :: ·)) (insertAll_sorted (cl.map (·.1)) List.Pairwise.nil)]
  exact Option.ext fun x => ⟨key hp x, key hp.symm x⟩

/-- the separator byte the source defines (`SEPARATOR_BYTE`, regenerated on every run by
    `translate/consts.py` wherever under `src/` it lives) is the model's separator 0xFF - the one byte
    value `id_bytes_inj` and `dim_bytes_inj` rely on never occurring in UTF-8 text. -/
theorem generated_separator : Gen.separatorByte = sep := by decide

end Prom.C15
