import Prom.Lemmas.HistInv
import Prom.Lemmas.HistValues
import Prom.Lemmas.HandoffHist
import Prom.Gen.Orderings
/-
C02 — Every histogram snapshot is one consistent cut of the observations.

Model: `Prom/HP/Basic.lean`, an inductive step relation over the shared state of the hot/cold protocol and a *list
of in-flight tasks* (observers, batch flushers, collectors; `spawn` steps add tasks at any time), so the theorems
hold for any number of threads and any interleaving of the atomic steps. Sum and buckets are uniform cells (`0..k-1`
buckets, `k` the sum); an observation is `{w, upd}`: weight 1 and `[(bucket, 1), (sum, v)]` for `observe`, weight =
count and one entry per non-empty local bucket plus the sum for a local-histogram flush. Exact (integer) cell
arithmetic. The replay machine `Model/HistMachine.lean`, against which every trace of the real implementation is
checked event by event, is written over the state of this model: by `replay_refines` the theorems hold of every
state reached while replaying a real trace, and `collect_returns_cut` states C02 for the values the real `collect`
calls returned. `obsOf` and the three theorems after it read the cells of a cut of abstract `observe(v)` observations
only; for replayed runs, whose observations are `HM.obsOfVals`, that reading is `call_observation_stats` and
`collect_value_stats`.
-/
namespace Prom.C02
open Hp

/-- every snapshot ever returned by any collector equals the statistics
    (count = total weight, every cell = total contribution) of exactly the observations claimed
    before that collector's flip (the cut `p.2` recorded with it; that it is a prefix of the claim order is
    `cut_is_claim_prefix`): one consistent cut, whatever the other threads were doing. -/
theorem snapshot_is_prefix {k : Nat} {s : St} (h : Reach k s) :
    ∀ p ∈ s.snaps, p.1.count = totW p.2 ∧ ∀ c, p.1.cell c = tot p.2 c :=
  Hp.snapshot_is_prefix h

/-- at most one task is between acquiring the collect lock and releasing
    it, and exactly one iff the lock is held -/
theorem collectors_exclusive {k : Nat} {s : St} (h : Reach k s) :
    nActive s.tasks = if s.lock then 1 else 0 :=
  (inv_reach h).act

/-- the observation a single `observe(v)` makes, in the abstract: one unit of weight, one unit in its bucket
    (none above all bounds / NaN), `iv` in the sum cell `k`. The three theorems below read `tot` / `totW` for cuts
    made of such observations; the observations of replayed runs are `HM.obsOfVals` (a batch may carry several
    values), and the same readings for them are `call_observation_stats` and `collect_value_stats`. -/
def obsOf (k : Nat) (bucket : Option Nat) (iv : Int) : Obs :=
  ⟨1, (match bucket with | some i => [(i, 1)] | none => []) ++ [(k, iv)]⟩

/-- for a cut of single observations `obsOf`: a snapshot's bucket cell counts exactly the observations of the cut
    that fell into that bucket (with `Prom.findBucket_spec` this is "cumulative[i] = number of values `<=` bound
    i"); for replayed runs see `collect_value_stats` -/
theorem bucket_cell_counts (k c : Nat) (hc : c < k) (l : List (Option Nat × Int)) :
    tot (l.map fun p => obsOf k p.1 p.2) c = (l.filter fun p => p.1 == some c).length := by
  induction l with
  | nil => rfl
  | cons p r ih =>
    rw [List.map_cons, tot_cons, ih, List.filter_cons]
    rcases p with ⟨_ | i, v⟩
    · simp [obsOf, Nat.ne_of_gt hc]
    · by_cases h : i = c <;> simp [obsOf, h, Nat.ne_of_gt hc, Int.add_comm]

/-- for a cut of single observations `obsOf`: a snapshot's count is the number of observations in the cut; for
    replayed runs see `collect_value_stats` -/
theorem count_is_size (k : Nat) (l : List (Option Nat × Int)) :
    totW (l.map fun p => obsOf k p.1 p.2) = l.length := by
  induction l with
  | nil => rfl
  | cons p r ih => rw [List.map_cons, totW_cons, ih, List.length_cons, Nat.add_comm]; rfl

/-- for a cut of single observations `obsOf`: a snapshot's sum cell is the sum of the observed values; for
    replayed runs see `collect_value_stats` -/
theorem sum_cell_is_sum (k : Nat) (l : List (Option Nat × Int)) (hb : ∀ p ∈ l, ∀ i, p.1 = some i → i < k) :
    tot (l.map fun p => obsOf k p.1 p.2) k = (l.map (·.2)).sum := by
  induction l with
  | nil => rfl
  | cons p r ih =>
    have hp : contribL (obsOf k p.1 p.2).upd k = p.2 := by
      cases h : p.1 with
      | none => simp [obsOf]
      | some i => simp [obsOf, Nat.ne_of_lt (hb p (by simp) i h)]
    rw [List.map_cons, tot_cons, ih (fun q hq => hb q (by simp [hq])), hp, List.map_cons, List.sum_cons]

/-- the cut of every snapshot is a *prefix* of the list of observations in
    claim order (the modification order of `shard_and_count`): it is closed under "claimed earlier".
    Because a thread's observations are claimed in program order, a snapshot never contains a thread's
    later observation without its earlier ones; because every observation that completed before the
    collection started was claimed before the collector's flip, the cut contains it; because an
    observation that starts after the collection returned is claimed after the flip, the cut excludes
    it (the flip is a step of the collection itself, and `claimed` only grows — `claim_order_fixed`). -/
theorem cut_is_claim_prefix {k : Nat} {s : St} (h : Reach k s) :
    ∀ p ∈ s.snaps, p.2 <+: s.claimed :=
  (ord_reach h).snapsPre

/-- a collector between its flip and its unlock carries a cut that is a prefix of the claim order and
    extends the cut of every snapshot returned so far -/
theorem inflight_cut_is_prefix {k : Nat} {s : St} (h : Reach k s) (t : Task) (ht : t ∈ s.tasks) (S : List Obs)
    (hS : cutOf t = some S) : S <+: s.claimed ∧ ∀ p ∈ s.snaps, p.2 <+: S :=
  (ord_reach h).taskPre t ht S hS

/-- every step leaves the claim order as it was or appends one observation -/
theorem claim_order_fixed {k : Nat} {s s' : St} (h : Step k s s') : s.claimed <+: s'.claimed :=
  claimed_mono h

/-- every item (call mark, atomic / lock event with the value it returned,
    return mark) that the replay machine accepts is, on the abstraction `HM.abs`, a stutter, exactly
    one step of the proof model, or exactly two steps. Two steps happen only at the event at which a
    collector swaps 0 out of a cold bucket: the first step is that swap - of a cell that holds 0, so it
    changes nothing but the task list (`ts`; the shared state stays `s.core`) -, the second is the `addHot`
    of 0 of that bucket (`HM.skipTask`), whose no-op `fetch_add(0)` the code may skip; if the code does
    issue it later, the event is a stutter (`HM.colStep`, `HM.Accepts.of_swapRes`). -/
theorem replay_refines {s s' : HM.St} {it : Conc.Item} (h : HM.item s it = .ok s') :
    HM.abs s' = HM.abs s ∨ Hp.Step s.bounds.length (HM.abs s) (HM.abs s') ∨
      ∃ ts, Hp.Step s.bounds.length (HM.abs s) (HM.withTasks s.core ts) ∧
            Hp.Step s.bounds.length (HM.withTasks s.core ts) (HM.abs s') :=
  (HM.item_refines h).2

/-- a trace that replays without divergence ends in a reachable state of the proof model (`replay_refines` along
    the run), so every theorem about `Reach` holds of it -/
theorem replay_reaches {bounds : List UInt64} {prog : List (List String)} {tr : List Conc.Item} {s : HM.St}
    (h : Conc.runItems HM.item (HM.init bounds prog) tr 0 = .ok s) : Reach bounds.length (HM.abs s) :=
  HM.mreach_reach (HM.MReach.init.of_run (RT.Run.of_runItems h))

/-- C02 for the replayed implementation: for every `collect` call that
    returned while a trace was replayed, the value it returned (the string the real call's result is
    compared with) is the statistics of one list `cut` of whole observations — count = total weight,
    every bucket cell and the sum cell = total contribution — and `cut` lies, as a prefix in claim
    order, between the observations claimed when the call started (`c0`: it contains every
    observation that had completed by then) and those claimed when it released the lock (`c1`: it
    excludes every observation that starts after the call returned). -/
theorem collect_returns_cut {bounds : List UInt64} {prog : List (List String)} {s : HM.St}
    (h : HM.MReach bounds prog s) :
    ∀ r ∈ s.cuts, r.rv = HM.showSnap bounds.length (totW r.cut) (fun c => tot r.cut c) ∧
      r.c0 <+: r.cut ∧ r.cut <+: r.c1 ∧ r.c1 <+: s.core.claimed := by
  intro r hr
  obtain ⟨h0, h1, h2, snap, hmem, hrv⟩ := (HM.cutInv_reach h).recs r hr
  obtain ⟨hcount, hcell⟩ := Hp.snapshot_is_prefix (HM.mreach_reach h) (snap, r.cut) hmem
  refine ⟨?_, h0, h1, h2⟩
  rw [hrv, HM.mreach_bounds h, show snap.count = totW r.cut from hcount,
    show snap.cell = fun c => tot r.cut c from funext hcell]

/-! ### per-thread program order (the ghost list `HM.St.tags`)

`s.tags` is parallel to the claim order `s.core.claimed`: the replay machine appends `(t, i)` to it in
exactly the step in which an event of thread `t`, inside its call number `i`, appends an observation
to `claimed` (the claim `fetch_add` on `shard_and_count`). -/

/-- one tag per claimed observation, and the tag says whose observation it
    is: if position `i` is tagged `(t, k)`, the observation claimed at position `i` is the one the
    `k`-th call of thread `t` of the program (`obs:v` / `flush:v1+v2+…`) makes -/
theorem claim_tags_parallel {bounds : List UInt64} {prog : List (List String)} {s : HM.St}
    (h : HM.MReach bounds prog s) :
    s.tags.length = s.core.claimed.length ∧
    ∀ (i t k : Nat), s.tags[i]? = some (t, k) → ∃ ops : List String, prog[t]? = some ops ∧
      s.core.claimed[i]? = some (HM.obsOfVals bounds (HM.callVals (ops.getD k ""))) :=
  ⟨(HM.tagInv_reach h).len, (HM.tagObsInv_reach h).tagObs⟩

/-- along the claim order, the observations of one thread appear
    with strictly increasing call indices: a thread's observations are claimed in program order, and
    no call claims twice -/
theorem thread_claims_in_program_order {bounds : List UInt64} {prog : List (List String)} {s : HM.St}
    (h : HM.MReach bounds prog s) :
    ∀ i j (hij : i < j) (hj : j < s.tags.length),
      (s.tags[i]'(Nat.lt_trans hij hj)).1 = (s.tags[j]).1 → (s.tags[i]'(Nat.lt_trans hij hj)).2 < (s.tags[j]).2 :=
  fun i j hij hj heq =>
    List.pairwise_iff_getElem.mp (HM.tagInv_reach h).sorted i j (Nat.lt_trans hij hj) hj hij heq

/-- a snapshot never contains a thread's later observation without its
    earlier ones: for every `collect` call that returned while a trace was replayed, its cut `r.cut`
    is the first `r.cut.length` observations of the claim order, and whenever it contains position
    `j` — an observation of call `b` of thread `t` — it also contains every position `i` that holds
    an observation of an earlier call `a < b` of the same thread -/
theorem cut_per_thread_prefix {bounds : List UInt64} {prog : List (List String)} {s : HM.St}
    (h : HM.MReach bounds prog s) :
    ∀ r ∈ s.cuts, r.cut = s.core.claimed.take r.cut.length ∧
      ∀ i j t a b, s.tags[i]? = some (t, a) → s.tags[j]? = some (t, b) → a < b →
        j < r.cut.length → i < r.cut.length :=
  fun r hr => ⟨List.prefix_iff_eq_take.mp (HM.cut_prefix h r hr), HM.cut_per_thread_prefix h r hr⟩

/-- the observation a call `obs:v` / `flush:v1+v2+…` makes
    (`HM.obsOfVals bounds vals`, `vals` the values written in the call) has weight = number of values,
    contributes to bucket cell `c` the number of its values whose first bound `>=` them is bound `c`,
    and contributes the sum of its values to the sum cell -/
theorem call_observation_stats (bounds : List UInt64) (vals : List Int) :
    (HM.obsOfVals bounds vals).w = vals.length ∧
    (∀ c, c < bounds.length → contribL (HM.obsOfVals bounds vals).upd c =
      ((vals.filter fun v => Prom.findBucket bounds (Conc.f64OfInt v) == some c).length : Int)) ∧
    contribL (HM.obsOfVals bounds vals).upd bounds.length = vals.foldl (· + ·) 0 :=
  ⟨HM.obsOfVals_w bounds vals, fun c hc => (HM.obsOfVals_cells bounds vals c).trans (HM.statCells_bucket hc vals),
    (HM.obsOfVals_cells bounds vals _).trans (HM.statCells_sum bounds vals)⟩

/-- in every state reached while replaying a trace, every
    observation in the claim order (`claimed`), and the one carried by every thread that is inside an
    `obs` / `flush` call (before or after its claim), is `obsOfVals bounds vals` for a list of values `vals` -/
theorem observations_are_call_values {bounds : List UInt64} {prog : List (List String)} {s : HM.St}
    (h : HM.MReach bounds prog s) :
    (∀ o ∈ s.core.claimed, ∃ vals, o = HM.obsOfVals bounds vals) ∧
    (∀ th ∈ s.ths, ∀ pc, th.pc = some pc → ∀ o,
      (pc.task = some (.obsStart o) ∨ ∃ b rest, pc.task = some (.obsRun o b rest)) →
      ∃ vals, o = HM.obsOfVals bounds vals) := by
  have O := HM.obsInv_reach h
  refine ⟨O.claimed, ?_⟩
  intro th hth pc hpc o ho
  refine O.thr th hth pc hpc o ?_
  rcases ho with ho | ⟨b, rest, ho⟩ <;> simp [HM.obsOfPc, ho, HM.obsOfTask]

/-- C02 down to the values: for every `collect` call that returned while
    a trace was replayed there is a list `valss` of value lists (one per observation of the cut, in
    claim order; `S := valss.flatten` is the multiset of observed values the snapshot stands for) such
    that the cut is exactly the observations of these calls, and
    * the snapshot's sample count is the size of `S`,
    * every bucket cell `c` is the number of values of `S` that fall into bucket `c`,
    * the sum cell is the sum of `S`,
    * the returned string is the rendering of exactly these numbers,
    and the cut lies between the observations claimed at the call's start and at its unlock
    (`collect_returns_cut`). -/
theorem collect_value_stats {bounds : List UInt64} {prog : List (List String)} {s : HM.St}
    (h : HM.MReach bounds prog s) :
    ∀ r ∈ s.cuts, ∃ valss : List (List Int),
      r.cut = valss.map (HM.obsOfVals bounds) ∧
      totW r.cut = valss.flatten.length ∧
      (∀ c, c < bounds.length → tot r.cut c =
        ((valss.flatten.filter fun v => Prom.findBucket bounds (Conc.f64OfInt v) == some c).length : Int)) ∧
      tot r.cut bounds.length = valss.flatten.foldl (· + ·) 0 ∧
      r.rv = HM.showSnap bounds.length valss.flatten.length (HM.statCells bounds valss.flatten) ∧
      r.c0 <+: r.cut ∧ r.cut <+: r.c1 ∧ r.c1 <+: s.core.claimed := by
  intro r hr
  obtain ⟨valss, hv⟩ := HM.cut_valss h r hr
  obtain ⟨hrv, hpre⟩ := collect_returns_cut h r hr
  refine ⟨valss, hv, ?_, ?_, ?_, ?_, hpre⟩
  · rw [hv, HM.cut_totW]
  · intro c hc; rw [hv, HM.cut_cells]; exact HM.statCells_bucket hc _
  · rw [hv, HM.cut_cells, HM.statCells_sum]
  · rw [hrv, hv, HM.cut_totW, funext (HM.cut_cells bounds valss)]

/-- the statement of C02 in full, for strictly increasing bounds (what
    `check_and_adjust_buckets` accepts, `C08.accepted_strictIncr`): the value every returned `collect`
    call produced is the rendering (`HM.renderSnap`: count / sum bit pattern / cumulative counts) of
    a set `S` of whole observations' values — its sample count is the size of `S`, its sample sum is
    the sum of `S`, and every bucket's cumulative count is the number of values in `S` not greater
    than that bucket's bound (`f64Le`, the IEEE `<=` the implementation uses) — where `S` is the values
    of a prefix `cut` of the claim order that contains everything claimed before the call started and
    nothing claimed after it released the lock. -/
theorem collect_value_semantics {bounds : List UInt64} {prog : List (List String)} {s : HM.St}
    (h : HM.MReach bounds prog s) (hs : Prom.StrictIncr bounds) :
    ∀ r ∈ s.cuts, ∃ valss : List (List Int),
      r.cut = valss.map (HM.obsOfVals bounds) ∧
      r.rv = HM.renderSnap valss.flatten.length (valss.flatten.foldl (· + ·) 0)
        (bounds.map fun b => valss.flatten.countP (fun v => Prom.f64Le (Conc.f64OfInt v) b)) ∧
      r.c0 <+: r.cut ∧ r.cut <+: r.c1 ∧ r.c1 <+: s.core.claimed := by
  intro r hr
  obtain ⟨valss, hv, _, _, _, hrv, hpre⟩ := collect_value_stats h r hr
  exact ⟨valss, hv, hrv.trans (HM.showSnap_statCells hs _), hpre⟩

/-- for strictly increasing bounds the bucket cells `0..i` of a
    cut add up to the number of its values that are `<=` bound `i` -/
theorem cumulative_counts_are_le_counts {bounds : List UInt64} (hs : Prom.StrictIncr bounds)
    (valss : List (List Int)) (i : Nat) (b : UInt64) (hb : bounds[i]? = some b) :
    ((List.range (i + 1)).map fun c => tot (valss.map (HM.obsOfVals bounds)) c).sum =
      (valss.flatten.countP (fun v => Prom.f64Le (Conc.f64OfInt v) b) : Int) :=
  (congrArg (fun f => ((List.range (i + 1)).map f).sum) (funext (HM.cut_cells bounds valss))).trans
    (HM.statCells_cum hs _ i b hb)

/-! ### the release/acquire hand-off (what the memory model adds to the SC interleaving)

The model and the replay machine interpret a trace as a sequentially consistent interleaving. The
theorems above therefore speak about the real implementation only if the observer's Relaxed writes
to the cold shard HAPPEN-BEFORE the collector's swaps of those cells. `Prom/Lemmas/Handoff.lean`
defines `po`, `rf`, release sequences, `sw` and `hb = (po ∪ sw)⁺` on a trace (trace order =
modification order of every location), and the theorems below show that the happens-before edge the
protocol needs exists given exactly the orderings the replay machine checks, and does not exist
without them. -/

open Prom.Handoff in
/-- message passing through a counter that is only ever modified by
    read-modify-writes. If every write to location `c` in the trace is an RMW, then a release write
    (RMW) to `c` at `p` synchronizes with EVERY later acquire read (or RMW) of `c` at `a` — whatever
    other RMWs hit `c` in between, they continue the release sequence headed by `p` — and so
    everything the publishing thread did before `p` happens-before everything the acquiring thread
    does after `a`. Role: with `c` the cold shard's count, `p` an observer's publish and `a` the
    collector's successful spin, the observer's Relaxed bucket / sum writes happen-before the
    collector's swaps of the cold cells. -/
theorem handoff_hb {tr : List MEv} {c : String} {p a : Nat} {ep ea : MEv}
    (hc : ∀ (k : Nat) (e : MEv), tr[k]? = some e → e.loc = c → e.wr = true → e.rd = true)
    (hpa : p < a)
    (hp : tr[p]? = some ep) (hpl : ep.loc = c) (hpw : ep.wr = true) (hprel : ep.rel = true)
    (ha : tr[a]? = some ea) (hal : ea.loc = c) (hard : ea.rd = true) (haacq : ea.acq = true) :
    sw tr p a ∧
    (∀ e f, po tr e p → po tr a f → hb tr e f) ∧
    (∀ e, po tr e p → hb tr e a) ∧ (∀ f, po tr a f → hb tr p f) :=
  Handoff.handoff_hb hc hpa hp hpl hpw hprel ha hal hard haacq

open Prom.Handoff in
/-- the Release on the publish is necessary. In the four-event trace
    `trRelaxedPublish` (observer: `fetch_add` Relaxed on a bucket, then the publish `fetch_add` on the
    count with RELAXED instead of Release; collector: successful spin compare-exchange Acquire on the
    count, then `swap` AcqRel of the bucket — all other orderings as in the real code) the spin reads
    the publish and the swap reads the bucket write in the interleaving, yet happens-before is exactly
    program order (`0 → 1`, `2 → 3`): the bucket write does NOT happen-before the swap. Role: the
    replay machine's check `ordGe e.ord "Release"` on the publish is not decoration — a run that
    passes it with a weaker ordering would not be covered by the SC model. -/
theorem handoff_needs_release :
    rf trRelaxedPublish 2 = some 1 ∧ rf trRelaxedPublish 3 = some 0 ∧
    (∀ i j, hb trRelaxedPublish i j ↔ (i = 0 ∧ j = 1) ∨ (i = 2 ∧ j = 3)) ∧
    ¬ hb trRelaxedPublish 0 3 :=
  Handoff.handoff_needs_release

open Prom.Handoff in
/-- the Acquire on the spin is necessary: the same trace with a Release
    publish and a RELAXED spin (`trRelaxedSpin`) again has happens-before = program order, so the
    bucket write does not happen-before the swap. Role: the machine's check `ordGe e.ord "Acquire"`
    on the spin is needed. (`Handoff.handoff_good`: with both orderings in place the same four events
    do have `hb 0 3`.) -/
theorem handoff_needs_acquire :
    rf trRelaxedSpin 2 = some 1 ∧ rf trRelaxedSpin 3 = some 0 ∧
    (∀ i j, hb trRelaxedSpin i j ↔ (i = 0 ∧ j = 1) ∨ (i = 2 ∧ j = 3)) ∧
    ¬ hb trRelaxedSpin 0 3 :=
  Handoff.handoff_needs_acquire

/-- every event the replay machine accepts on the count cell of a shard is a
    `fetch_add` ("A"), a compare-exchange ("C") or a load ("L": the load of a `fetch_add` that is written as
    a load + compare-exchange loop, or the load a collector's test-and-test-and-set wait loop does before a
    spin attempt) — never a store or a swap; as memory events they all read,
    so whenever one writes it is a read-modify-write (a successful compare-exchange IS one); and an event
    that belongs to a collector's spin is that load or a compare-exchange with an ordering at least Acquire.
    Role: this is the hypothesis "every write to `c` is an RMW" of `handoff_hb` for `c` = a shard's count, so
    the release sequence headed by a publish is never cut (by another observer's publish, the collector's
    reset in the spin, or its `addCount`). The Acquire is stated of the spin only: a publish or an `addCount`
    written as a loop has compare-exchanges on a count cell too, with the ordering of the `fetch_add` they stand for. -/
theorem count_cells_only_rmw {k : Nat} {c : Hp.St} {cuts : HM.Cuts} {e : Conc.Ev} {pc : HM.Pc}
    {r : HM.Res × HM.Cuts} {b : Bool}
    (h : HM.evStep k c cuts e pc = .ok r) (hl : HM.parseLoc e.loc = .cnt b) :
    (e.k = "A" ∨ e.k = "C" ∨ e.k = "L") ∧
    (∀ cold ov S, pc.task = some (.colSpin cold ov S) →
      (e.k = "C" ∧ Conc.ordGe e.ord "Acquire" = true) ∨ e.k = "L") ∧
    (Handoff.ofEv e).rd = true :=
  HM.evStep_cnt_kind h hl

/-- the orderings the replay machine enforces on the two ends
    of the hand-off. (1) An event accepted from an observer that has applied all its updates is on the
    count of its shard and reads; it is either THE publish — a `fetch_add`, or the successful
    compare-exchange of the loop that `fetch_add` may be written as, with an ordering at least Release: a
    release RMW, which completes the call — or a stutter of that loop (a load, a failed compare-exchange)
    that writes nothing, changes nothing and leaves the call open. (2) An event accepted from a collector
    that has flipped is on the count of the cold shard and reads; it is either a spin attempt — a
    compare-exchange with an ordering at least Acquire: when it succeeds it is an acquire RMW — or the load
    a test-and-test-and-set wait loop does before an attempt, which writes nothing and changes nothing at
    all (shared state, call state; the call goes on spinning); and (2') the spin ENDS (the call's task
    changes) only through a successful compare-exchange with an ordering at least Acquire, an acquire RMW,
    when the cold count equals the expected value.
    (3) "at least Release" / "at least Acquire" coincide with release / acquire semantics on every
    ordering string, in particular the five real ones. Role: the hypotheses on `p` and `a` of
    `handoff_hb` hold for the publish and the successful spin of every accepted trace. -/
theorem publish_is_release_spin_is_acquire {k : Nat} {c : Hp.St} {cuts : HM.Cuts} {e : Conc.Ev} {pc : HM.Pc}
    {r : HM.Res × HM.Cuts} (h : HM.evStep k c cuts e pc = .ok r) :
    (∀ o b, pc.task = some (.obsRun o b []) →
      HM.parseLoc e.loc = .cnt b ∧ (Handoff.ofEv e).rd = true ∧
      (((e.k = "A" ∨ (e.k = "C" ∧ e.ok = true)) ∧ Conc.ordGe e.ord "Release" = true ∧
          (Handoff.ofEv e).wr = true ∧ (Handoff.ofEv e).rel = true ∧ r.1.2.2 = some "") ∨
       ((e.k = "L" ∨ (e.k = "C" ∧ e.ok = false)) ∧ (Handoff.ofEv e).wr = false ∧ r.1.1 = c ∧ r.1.2.2 = none))) ∧
    (∀ cold ov S, pc.task = some (.colSpin cold ov S) →
      HM.parseLoc e.loc = .cnt cold ∧ (Handoff.ofEv e).rd = true ∧
      ((e.k = "C" ∧ Conc.ordGe e.ord "Acquire" = true ∧
          (e.ok = true → (Handoff.ofEv e).wr = true ∧ (Handoff.ofEv e).acq = true)) ∨
       (e.k = "L" ∧ (Handoff.ofEv e).wr = false ∧ r.1.1 = c ∧ r.1.2.1 = pc ∧ r.1.2.2 = none))) ∧
    (∀ cold ov S, pc.task = some (.colSpin cold ov S) → r.1.2.1.task ≠ pc.task →
      e.k = "C" ∧ e.ok = true ∧ Conc.ordGe e.ord "Acquire" = true ∧
      (Handoff.ofEv e).wr = true ∧ (Handoff.ofEv e).acq = true ∧ (c.sh cold).count = ov) ∧
    (∀ o ∈ ["Relaxed", "Acquire", "Release", "AcqRel", "SeqCst"],
      (Conc.ordGe o "Release" = true ↔ o = "Release" ∨ o = "AcqRel" ∨ o = "SeqCst") ∧
      (Conc.ordGe o "Acquire" = true ↔ o = "Acquire" ∨ o = "AcqRel" ∨ o = "SeqCst") ∧
      (Conc.ordGe o "Release" = true → Handoff.relOrd o = true) ∧
      (Conc.ordGe o "Acquire" = true → Handoff.acqOrd o = true)) :=
  ⟨fun _ _ ht => HM.evStep_publish_release ht h, fun _ _ _ ht => HM.evStep_spin_acquire ht h,
    fun _ _ _ ht hx => HM.evStep_spin_exit ht h hx, fun o _ => Handoff.ordGe_table o⟩

/-- the freedom "a `fetch_add` may be written as a load + compare-exchange
    loop" (`HM.fetchAdd`, used at every `fetch_add` site of the machine: claim, bucket updates, publish, flip,
    `addHot` on a bucket, `addCount`), shown at the publish of an observer (task `obsRun o b []`, no loop in
    progress) on a shard whose count holds the pattern `x`: (1) the single `fetch_add` Release of the weight
    is accepted; (2) a Relaxed load of the count is accepted and changes nothing but the call's loop
    state; (3) from there the compare-exchange `x -> x + w` with ordering Release that succeeds is accepted
    and leads to EXACTLY the state the single `fetch_add` leads to; (4) a failed one that reports the count
    changes nothing (the call may then reload or retry with the reported value, `HM.fetchAdd_after_failure`).
    The machine-independent facts for all six sites are `HM.fetchAdd_single`, `HM.fetchAdd_load`,
    `HM.fetchAdd_cas_ok`, `HM.fetchAdd_cas_failed`, `HM.fetchAdd_cases`. -/
theorem publish_as_cas_loop_accepted {k : Nat} {c : Hp.St} {cuts : HM.Cuts} {pc : HM.Pc} {o : Obs} {b : Bool}
    (ht : pc.task = some (.obsRun o b [])) (hi : pc.icur = none) (t : Nat) (l : String)
    (hl : HM.parseLoc l = .cnt b) :
    let x := (c.sh b).count.toUInt64
    let w := o.w.toUInt64
    let c' : Hp.St := { c with sh := modSh c.sh b (fun sd => { sd with count := sd.count + o.w }) }
    let done : HM.Pc := { pc with task := none, icur := none, ifailed := false }
    let loaded : HM.Pc := { pc with icur := some x, ifailed := false }
    HM.evStep k c cuts ⟨t, "A", l, "Release", w, 0, x, true⟩ pc = .ok ((c', done, some ""), cuts) ∧
    HM.evStep k c cuts ⟨t, "L", l, "Relaxed", 0, 0, x, true⟩ pc = .ok ((c, loaded, none), cuts) ∧
    HM.evStep k c cuts ⟨t, "C", l, "Release", x, x + w, x, true⟩ loaded = .ok ((c', done, some ""), cuts) ∧
    HM.evStep k c cuts ⟨t, "C", l, "Release", x, x + w, x, false⟩ loaded =
      .ok ((c, { pc with icur := some x, ifailed := true }, none), cuts) := by
  intro x w c' done loaded
  have og := Conc.ordGe_self "Release"
  -- The publish arm is the `fetch_add` site on the count. The event is passed to the site's lemmas explicitly:
  -- left to unification, their hypotheses `e.k = "A"` … are solved by unfolding string literals, which is slow.
  have arm : ∀ (e : Conc.Ev) (pc : HM.Pc), pc.task = some (.obsRun o b []) → ∃ msg, HM.evStep k c cuts e pc =
      HM.plainR cuts (HM.fetchAdd e c pc (.cnt b) "Release" w x true msg (c', { pc with task := none }, some "")) := by
    intro e pc ht
    unfold HM.evStep HM.evStep1
    simp only [ht]
    exact ⟨_, rfl⟩
  refine ⟨?_, ?_, ?_, ?_⟩
  · obtain ⟨msg, h⟩ := arm ⟨t, "A", l, "Release", w, 0, x, true⟩ pc ht
    rw [h, HM.fetchAdd_single (e := ⟨t, "A", l, "Release", w, 0, x, true⟩) rfl hl og rfl rfl rfl hi]
    rfl
  · obtain ⟨msg, h⟩ := arm ⟨t, "L", l, "Relaxed", 0, 0, x, true⟩ pc ht
    rw [h, HM.fetchAdd_load (e := ⟨t, "L", l, "Relaxed", 0, 0, x, true⟩) rfl hl rfl hi]
    rfl
  · obtain ⟨msg, h⟩ := arm ⟨t, "C", l, "Release", x, x + w, x, true⟩ loaded ht
    rw [h, HM.fetchAdd_cas_ok (e := ⟨t, "C", l, "Release", x, x + w, x, true⟩) (cur := x) rfl rfl hl og rfl rfl rfl
      rfl rfl rfl]
    rfl
  · obtain ⟨msg, h⟩ := arm ⟨t, "C", l, "Release", x, x + w, x, false⟩ loaded ht
    rw [h, HM.fetchAdd_cas_failed (e := ⟨t, "C", l, "Release", x, x + w, x, false⟩) (cur := x) rfl rfl hl og rfl rfl
      rfl rfl]
    rfl

/-- the freedom "a collector past its spin may take its steps in any order"
    (`HM.colStep`; in the proof model `Hp.Step.swap / addHot / addCount` take ANY element of the task's list,
    `addHot c` only when `swap c` is no longer in it, `Hp.Step.unlock` only when the list is `[unlock]`), and
    its limits. For a collector whose remaining steps are `l1 ++ st :: l2` and an event on the location of
    `st` (cold cell for `swap`, hot cell for `addHot`, hot count for `addCount`, the lock for `unlock`; no
    earlier step of the list works on that location): (1) the event is checked exactly as if `st` were the
    head of the list, and `l1 ++ l2` remains - with `l1 = []`: the order of `Hp.prog`; (2) if `st` is
    `addHot cell` and `swap cell` is still to be done, the event is rejected; (3) if `st` is the `unlock` and
    anything else is left, the event is rejected. (4) An event on a location no remaining step works on is
    rejected (unless it is the `fetch_add(0)`, accepted once, of an `addHot` the machine took silently):
    so no cold cell is swapped twice and no drained value is added twice - the list is duplicate-free
    (`Hp.TodoWf`, part of the invariant `Hp.Inv`). Whatever IS accepted refines the proof model
    (`replay_refines`), so all theorems of this file hold for every admissible order. -/
theorem collector_drain_any_order {k : Nat} {c : Hp.St} {cuts : HM.Cuts} {e : Conc.Ev} {pc : HM.Pc}
    {cold : Bool} {ov : Nat} {taken : Cells} {S : List Obs} :
    (∀ l1 st l2, pc.task = some (.colMove cold ov (l1 ++ st :: l2) taken S) →
      (∀ x ∈ l1, HM.stepLoc k cold x ≠ HM.parseLoc e.loc) → HM.stepLoc k cold st = HM.parseLoc e.loc →
      HM.evStep k c cuts e pc = HM.colStep k c cuts e pc cold ov (st :: (l1 ++ l2)) taken S ∧
      (∀ cell, st = .addHot cell → CStep.swap cell ∈ l1 ++ l2 → ∃ m, HM.evStep k c cuts e pc = .error m) ∧
      (st = .unlock → l1 ++ l2 ≠ [] → ∃ m, HM.evStep k c cuts e pc = .error m)) ∧
    (∀ todo, pc.task = some (.colMove cold ov todo taken S) →
      (∀ x ∈ todo, HM.stepLoc k cold x ≠ HM.parseLoc e.loc) →
      (∀ z ∈ pc.zeros, HM.parseLoc e.loc ≠ .bkt (!cold) z) → ∃ m, HM.evStep k c cuts e pc = .error m) := by
  refine ⟨fun l1 st l2 ht h1 hq => ⟨?_, ?_, ?_⟩, fun todo ht h hz => ?_⟩
  · rw [HM.evStep_colMove ht, HM.colStep_any_step h1 hq]
  · rintro cell rfl hs
    rw [HM.evStep_colMove ht]
    exact HM.colStep_rejects_addHot_before_swap h1 hq hs
  · rintro rfl hne
    rw [HM.evStep_colMove ht]
    exact HM.colStep_rejects_early_unlock h1 hq hne
  · rw [HM.evStep_colMove ht]
    exact HM.colStep_rejects_no_step h hz

/-- the freedom "the wait loop may be test-and-test-and-set": while a collector
    spins, a load (any ordering) of the cold shard's count that returns the count is accepted and changes
    nothing at all; the spin still ends only through the successful Acquire compare-exchange
    (`publish_is_release_spin_is_acquire` (2')) -/
theorem spin_wait_load_accepted {k : Nat} {c : Hp.St} {cuts : HM.Cuts} {pc : HM.Pc} {cold : Bool} {ov : Nat}
    {S : List Obs} (ht : pc.task = some (.colSpin cold ov S)) (t : Nat) (l o : String) (a b : UInt64) (ok : Bool)
    (hl : HM.parseLoc l = .cnt cold) :
    HM.evStep k c cuts ⟨t, "L", l, o, a, b, (c.sh cold).count.toUInt64, ok⟩ pc = .ok ((c, pc, none), cuts) := by
  unfold HM.evStep HM.evStep1
  simp [ht, hl, Conc.ordGe_relaxed, Conc.guard, HM.plainR]

open Prom.Handoff in
/-- the three facts combined, for whole traces: in the
    memory-event trace (`HM.memTrace`) of ANY trace the histogram machine replays without divergence,
    a release write `p` to a shard's count cell (every observer publish is one) synchronizes with every
    later successful compare-exchange `a` with an ordering at least Acquire on that cell (every successful
    collector spin is one, `publish_is_release_spin_is_acquire` (2)), and every event program-ordered before
    `p` happens-before every event program-ordered after `a`. (The hypothesis `haacq` tells the spin apart:
    a publish or an `addCount` written as a compare-exchange loop is a compare-exchange on a count cell too,
    with its own ordering.) -/
theorem replayed_publish_happens_before_collect {tr : List Conc.Item} {s s' : HM.St} {n : Nat}
    (h : Conc.runItems HM.item s tr n = .ok s')
    {p a : Nat} {ep ea : Conc.Ev} {b : Bool} (hpa : p < a)
    (hp : (HM.evsOf tr)[p]? = some ep) (ha : (HM.evsOf tr)[a]? = some ea)
    (hal : HM.parseLoc ea.loc = .cnt b) (hak : ea.k = "C") (haok : ea.ok = true)
    (haacq : Conc.ordGe ea.ord "Acquire" = true)
    (hpl : ep.loc = ea.loc) (hpw : (ofEv ep).wr = true) (hprel : (ofEv ep).rel = true) :
    sw (HM.memTrace tr) p a ∧
    (∀ e f, po (HM.memTrace tr) e p → po (HM.memTrace tr) a f → hb (HM.memTrace tr) e f) ∧
    (∀ e, po (HM.memTrace tr) e p → hb (HM.memTrace tr) e a) ∧
    (∀ f, po (HM.memTrace tr) a f → hb (HM.memTrace tr) p f) := by
  have hp' : (HM.memTrace tr)[p]? = some (ofEv ep) := by simp [HM.memTrace, List.getElem?_map, hp]
  have ha' : (HM.memTrace tr)[a]? = some (ofEv ea) := by simp [HM.memTrace, List.getElem?_map, ha]
  exact Handoff.handoff_hb (c := ea.loc) (HM.memTrace_cnt_rmw h hal) hpa hp' hpl hpw hprel ha' rfl
    (ofEv_rmw_of_kind (.inr hak)).1 (ofEv_acq_of_ordGe haacq (fun _ => haok))

-- non-vacuity of `Reach`, simplest instance: one spawn from the initial state (a state without snapshots)
example : Reach 2 { Hp.init with tasks := [Task.colWant] } := Reach.step Reach.init (Step.spawnCol Hp.init [] [] rfl)

/-- the orderings the hand-off and the replay machine need, stated over WHAT a call site is - the
    last field of its receiver, the method, the position among the call's ordering arguments - not
    over where it is (functions may be split, merged or renamed): every increment of
    `shard_and_count` (an observer's or a batch's claim) is at least Acquire, every `flip` at least
    AcqRel, every explicitly ordered increment of a shard's `count` (the publish) at least Release,
    every compare-exchange on a `count` (the collector's spin) at least Acquire on success, every swap
    in the file, whatever its receiver is called (read-and-reset of the cold cells), at least AcqRel -/
def orderingRules : List (String × List String × Nat × String) :=
  [("shard_and_count", ["inc", "inc_by"], 0, "Acquire"),
   ("shard_and_count", ["flip"], 0, "AcqRel"),
   ("count", ["inc_by_with_ordering"], 0, "Release"),
   ("count", ["compare_exchange_weak", "compare_exchange"], 0, "Acquire"),
   ("*", ["swap"], 0, "AcqRel")]

/-- the sites of `src/histogram.rs` a rule speaks about -/
def ruleSites (r : String × List String × Nat × String) : List Gen.OrdSite :=
  Gen.orderingSites.filter fun s => s.file == "histogram.rs" && (r.1 == "*" || s.recv == r.1) && r.2.1.contains s.meth && s.arg == r.2.2.1

/-- over the table REGENERATED from `src/histogram.rs` on every run
    (`translate/orderings.py`): for every rule there IS such a call site in the source, and EVERY
    such site passes an ordering at least as strong as the rule demands (`handoff_hb` needs the
    publish to be a release and the spin an acquire; the replay machine demands the same of every
    event of every real trace). A weakened ordering changes the table and this closed fact no
    longer checks; moving a call into a helper function does not change it. -/
theorem source_orderings_suffice :
    orderingRules.all (fun r => !(ruleSites r).isEmpty && (ruleSites r).all fun s => Conc.ordGe s.ord r.2.2.2) = true := by
  decide +kernel

end Prom.C02
