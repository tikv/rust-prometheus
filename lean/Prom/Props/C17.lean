import Prom.Lemmas.NoPanic
import Prom.Lemmas.BucketHelpers
import Prom.Lemmas.Vec
import Prom.Lemmas.Desc
import Prom.Lemmas.Utf8
import Prom.Lemmas.F64Order
import Prom.Gen.Consts

/-
C17 — Fallible APIs report bad input as Err and do not panic.
The `…P` functions (`Model/Fallible.lean`) make every index, subtraction, `unwrap` and capacity request of the
Rust code explicit as an `Outcome` (`ok` / `err` / `panic`).
-/
namespace Prom.C17

/-- DESIGN §5 "no_panic", `check_and_adjust_buckets`: it never panics, for any bucket list, provided
    the default list is non-empty (`Gen/Consts`: 11 elements). -/
theorem checkAndAdjustP_no_panic (defaults bs : List UInt64) (hd : defaults ≠ []) :
    (checkAndAdjustP defaults bs).isPanic = false := by
  unfold checkAndAdjustP
  simp only []
  generalize he : (if bs.isEmpty = true then defaults else bs) = e
  have hne : e ≠ [] := by
    rw [← he]
    split
    · exact hd
    · next h => intro h'; rw [h'] at h; simp at h
  have hlen : 1 ≤ e.length := List.length_pos_iff.2 hne
  -- `len - 1` does not underflow, the loop indexes in range, and a last element exists
  rw [subP, if_pos hlen]
  simp only [Outcome.bind]
  exact bind_no_panic (bucketLoopP_no_panic e (e.length - 1) (by omega) e 0) fun _ =>
    bind_no_panic (unwrap_no_panic (List.getLast?_isSome.2 hne)) fun _ => rfl

/-- DESIGN §5 "err_iff": `linear_buckets(start, width, count)` returns `Err` exactly when
    `count < 1` or `width <= 0.0` (IEEE comparison). `start` is never examined. Because `NaN <= 0.0`
    is false, a NaN `width` is *accepted* by the code (see `linear_buckets_nan_width_accepted`): the
    documented condition "width is zero or negative" is what is checked, not "width is positive". -/
theorem linear_buckets_err_iff (start width : UInt64) (count : Nat) :
    linearBuckets start width count = none ↔ count < 1 ∨ f64Le width f64Zero = true := by
  rw [linearBuckets_eq]
  split
  · next h => exact ⟨fun _ => h, fun _ => rfl⟩
  · next h => exact ⟨(fun e => nomatch e), fun h' => absurd h' h⟩

/-- the condition of `linear_buckets_err_iff` spelled out on the bit pattern: `Err` iff `count = 0`, or `width` is a number
    (not NaN) whose order key is `≤ 0` (a negative number, `-0.0` or `+0.0`; `-Inf` included) -/
theorem linear_buckets_err_iff_key (start width : UInt64) (count : Nat) :
    linearBuckets start width count = none ↔ count = 0 ∨ (f64IsNaN width = false ∧ f64Key width ≤ 0) := by
  rw [linear_buckets_err_iff, f64Le_zero_iff, Nat.lt_one_iff]

/-- a NaN `width` with a positive `count` is accepted (`Ok`): `NaN <= 0.0` is false. Every bucket
    bound but possibly the first is then NaN; such a list is refused later by
    `check_and_adjust_buckets` (`bucketsOk`), not by this function. `+Inf` is accepted likewise. -/
theorem linear_buckets_nan_width_accepted (start width : UInt64) (count : Nat) (hc : 1 ≤ count)
    (hn : f64IsNaN width = true) : (linearBuckets start width count).isSome = true := by
  rw [linearBuckets_eq, if_neg (by rw [f64Le_nan_left f64Zero hn]; simp; omega)]; rfl

/-- on success the result has exactly `count` entries -/
theorem linear_buckets_length (start width : UInt64) (count : Nat) (l : List UInt64)
    (h : linearBuckets start width count = some l) : l.length = count := by
  rw [linearBuckets_eq] at h
  split at h <;> cases h
  simp

/-- on success entry `i` is `start + width * (i as f64)` -/
theorem linear_buckets_entry (start width : UInt64) (count : Nat) (l : List UInt64)
    (h : linearBuckets start width count = some l) (i : Nat) (hi : i < count) :
    l[i]? = some (f64Add start (f64Mul width (f64OfNat i))) := by
  rw [linearBuckets_eq] at h
  split at h <;> cases h
  simp [hi]

/-- DESIGN §5 "err_iff": `exponential_buckets(start, factor, count)` returns `Err`
    exactly when `count < 1`, or `start <= 0.0`, or `factor <= 1.0` (IEEE comparisons). As for
    `linear_buckets`, a NaN `start` or `factor` fails neither comparison and is accepted
    (`exponential_buckets_nan_accepted`). -/
theorem exponential_buckets_err_iff (start factor : UInt64) (count : Nat) :
    exponentialBuckets start factor count = none ↔
      count < 1 ∨ f64Le start f64Zero = true ∨ f64Le factor f64One = true := by
  rw [exponentialBuckets_eq]
  split
  · next h => exact ⟨fun _ => h, fun _ => rfl⟩
  · next h => exact ⟨(fun e => nomatch e), fun h' => absurd h' h⟩

/-- NaN `start` and NaN `factor` are accepted (`Ok`) when the other arguments are valid -/
theorem exponential_buckets_nan_accepted (start factor : UInt64) (count : Nat) (hc : 1 ≤ count)
    (hs : f64IsNaN start = true ∨ f64Le start f64Zero = false)
    (hf : f64IsNaN factor = true ∨ f64Le factor f64One = false) :
    (exponentialBuckets start factor count).isSome = true := by
  have hs : f64Le start f64Zero = false := hs.elim (f64Le_nan_left _) id
  have hf : f64Le factor f64One = false := hf.elim (f64Le_nan_left _) id
  rw [exponentialBuckets_eq, if_neg (by simp [hs, hf]; omega)]; rfl

/-- on success the result has exactly `count` entries -/
theorem exponential_buckets_length (start factor : UInt64) (count : Nat) (l : List UInt64)
    (h : exponentialBuckets start factor count = some l) : l.length = count := by
  rw [exponentialBuckets_eq] at h
  split at h <;> cases h
  exact expLoop_length factor count start

/-- on success the first entry is `start` and every further entry is the previous one times
    `factor` -/
theorem exponential_buckets_entries (start factor : UInt64) (count : Nat) (l : List UInt64)
    (h : exponentialBuckets start factor count = some l) :
    l[0]? = some start ∧ ∀ i a, i + 1 < count → l[i]? = some a → l[i + 1]? = some (f64Mul a factor) := by
  rw [exponentialBuckets_eq] at h
  split at h <;> cases h
  next hc =>
  refine ⟨?_, expLoop_step factor count start⟩
  cases count with
  | zero => simp at hc
  | succ k => rfl

/-- for `count < 2^60` (`8 * count ≤ isize::MAX`, so the `Vec` capacity request does not overflow) the `Ok` / `Err`
    of `linear_buckets` are exactly the `Some` / `None` of the sequential model -/
theorem linearBucketsP_eq (start width : UInt64) (count : Nat) (hb : count < 2 ^ 60) :
    linearBucketsP start width count = Outcome.ofOption (linearBuckets start width count) := by
  rw [linearBucketsP_cap, capOutcome_eq_ofOption hb]

/-- DESIGN §5 "no_panic", `linear_buckets`: for every `start`, `width` and every `count < 2^60` the function
    returns `Ok` or `Err` -/
theorem linearBucketsP_no_panic (start width : UInt64) (count : Nat) (hb : count < 2 ^ 60) :
    (linearBucketsP start width count).isPanic = false := by
  rw [linearBucketsP_eq start width count hb]
  cases linearBuckets start width count <;> rfl

/-- the bound `2^60` is sharp: the only panic of `linear_buckets` is the capacity overflow of an otherwise valid
    call -/
theorem linearBucketsP_panic_iff (start width : UInt64) (count : Nat) :
    (linearBucketsP start width count).isPanic = true ↔ 2 ^ 60 ≤ count ∧ f64Le width f64Zero = false := by
  rw [linearBucketsP_cap, capOutcome_isPanic, Ne, linear_buckets_err_iff]
  constructor
  · rintro ⟨hb, h⟩; exact ⟨hb, by simpa using fun hw => h (.inr hw)⟩
  · rintro ⟨hb, hw⟩; exact ⟨hb, by simp [hw]; omega⟩

/-- for `count < 2^60` the `Ok` / `Err` of `exponential_buckets` are exactly the `Some` / `None` of the
    sequential model -/
theorem exponentialBucketsP_eq (start factor : UInt64) (count : Nat) (hb : count < 2 ^ 60) :
    exponentialBucketsP start factor count = Outcome.ofOption (exponentialBuckets start factor count) := by
  rw [exponentialBucketsP_cap, capOutcome_eq_ofOption hb]

/-- DESIGN §5 "no_panic", `exponential_buckets`: for every `start`, `factor` and every `count < 2^60` the function
    returns `Ok` or `Err` -/
theorem exponentialBucketsP_no_panic (start factor : UInt64) (count : Nat) (hb : count < 2 ^ 60) :
    (exponentialBucketsP start factor count).isPanic = false := by
  rw [exponentialBucketsP_eq start factor count hb]
  cases exponentialBuckets start factor count <;> rfl

/-- the only panic of `exponential_buckets` is the capacity overflow of an otherwise valid call -/
theorem exponentialBucketsP_panic_iff (start factor : UInt64) (count : Nat) :
    (exponentialBucketsP start factor count).isPanic = true ↔
      2 ^ 60 ≤ count ∧ f64Le start f64Zero = false ∧ f64Le factor f64One = false := by
  rw [exponentialBucketsP_cap, capOutcome_isPanic, Ne, exponential_buckets_err_iff]
  constructor
  · rintro ⟨hb, h⟩
    exact ⟨hb, by simpa using fun hs => h (.inr (.inl hs)), by simpa using fun hf => h (.inr (.inr hf))⟩
  · rintro ⟨hb, hs, hf⟩; exact ⟨hb, by simp [hs, hf]; omega⟩

/-- invalid arguments of `linear_buckets` are `Err` in the panic-explicit model for *every* `count` (the checks
    come before the allocation) -/
theorem linearBucketsP_err_iff (start width : UInt64) (count : Nat) :
    linearBucketsP start width count = .err ↔ count < 1 ∨ f64Le width f64Zero = true := by
  rw [linearBucketsP_cap, capOutcome_err, linear_buckets_err_iff]

/-- invalid arguments of `exponential_buckets` are `Err` in the panic-explicit model for every `count` -/
theorem exponentialBucketsP_err_iff (start factor : UInt64) (count : Nat) :
    exponentialBucketsP start factor count = .err ↔
      count < 1 ∨ f64Le start f64Zero = true ∨ f64Le factor f64One = true := by
  rw [exponentialBucketsP_cap, capOutcome_err, exponential_buckets_err_iff]

-- non-vacuity: width NaN accepted, width -0.0 refused, count 0 refused; factor 1.0 refused
example : (linearBuckets f64One 0x7FF8000000000000 3).isSome = true := by decide +kernel
example : linearBuckets f64One 0x8000000000000000 3 = none := by decide +kernel
example : linearBuckets f64One f64One 0 = none := by decide +kernel
example : exponentialBuckets f64One f64One 3 = none := by decide +kernel
example : (exponentialBuckets f64One 0x4000000000000000 3).map List.length = some 3 := by decide +kernel

/-- DESIGN §5 "no_panic", `make_label_pairs`: the indexing `label_values[i]` is always in range: a wrong
    number of label values is an `Err`, never a panic. -/
theorem makeLabelPairsP_no_panic (d : Desc) (vals : List Str) : (makeLabelPairsP d vals).isPanic = false :=
  ite_no_panic (fun _ => rfl) fun hlen => ite_no_panic (fun _ => rfl) fun _ => ite_no_panic (fun _ => rfl) fun _ =>
    bind_no_panic (pairLoopP_no_panic vals d.varLabels 0 (Nat.le_of_eq (by simpa using hlen))) fun _ => rfl

/-- a wrong cardinality is an error (the converse holds too, `pairLoopP` never answers `err`, but is not stated) -/
theorem makeLabelPairsP_err_iff_card (d : Desc) (vals : List Str) (h : d.varLabels.length ≠ vals.length) :
    makeLabelPairsP d vals = .err := by
  simp [makeLabelPairsP, h]

/-- DESIGN §5 "no_panic", `Desc::new`: the names collected by the first loop are keys of the const-label
    map, so the `unwrap` on the value lookup cannot fail -/
theorem desc_value_lookup_no_panic (cl : List (Str × Str)) (cn : List Str) (h : constNames cl [] = some cn) :
    (lookupAllP cl cn).isPanic = false :=
  lookupAllP_no_panic cl cn fun k hk => ((constNames_mem cl [] cn h k).1 hk).resolve_left List.not_mem_nil

/-- the first special byte (all special bytes are ASCII) of a UTF-8 string sits at a character
    boundary, so `&v[0..first]` and `&v[first..]` never panic — whatever multi-byte characters
    precede it -/
theorem first_special_is_boundary (quote : Bool) : ∀ (cs : List Char) (i : Nat),
    (cs.flatMap String.utf8EncodeChar).findIdx? (isSpecial quote) = some i → isCharBoundary cs i = true := by
  intro cs
  induction cs with
  | nil => intro i h; simp at h
  | cons c r ih =>
    intro i h
    rw [List.flatMap_cons, List.findIdx?_append] at h
    cases hc : (String.utf8EncodeChar c).findIdx? (isSpecial quote) with
    | some j =>
      -- a special byte inside `c`'s encoding: `c` is that ASCII character, so j = 0
      obtain ⟨hj, hsp, _⟩ := List.findIdx?_eq_some_iff_getElem.1 hc
      rw [(utf8_char_ascii c _ (List.getElem_mem hj) (isSpecial_ascii hsp)).1, List.length_singleton,
        Nat.lt_one_iff] at hj
      rw [hc, Option.some_or, Option.some.injEq] at h
      rw [← h, hj]
      exact isCharBoundary_zero _
    | none =>
      rw [hc, Option.none_or, Option.map_eq_some_iff] at h
      obtain ⟨k, hk, rfl⟩ := h
      simp [isCharBoundary, ih k hk]

/-- DESIGN §5 "no_panic", `escape_string`: the slices at the first special byte never panic -/
theorem escapeSliceP_no_panic (cs : List Char) (quote : Bool) : (escapeSliceP cs quote).isPanic = false := by
  unfold escapeSliceP
  cases h : (cs.flatMap String.utf8EncodeChar).findIdx? (isSpecial quote) with
  | none => rfl
  | some i => simp only []; rw [first_special_is_boundary quote cs i h]; rfl

/-- DESIGN §5 "no_panic", encoders: for every list of families of every metric type (UNTYPED included:
    the text encoder answers `Err` for it), with or without a failing writer, both encoders return Ok or Err -/
theorem encode_no_panic (k : EncKind) (wf : Bool) (fams : List Family) : (encodeOutcome k wf fams).isPanic = false := by
  induction fams with
  | nil => rfl
  | cons f r ih =>
    rw [encodeOutcome_cons]
    exact ite_no_panic (fun _ => rfl) fun _ => ih

/-- DESIGN §5 "err_iff", encoders: an encoder with a working writer refuses exactly when some family has no
    samples or no name (or, text only, is UNTYPED) -/
theorem encode_err_iff (k : EncKind) (fams : List Family) :
    encodeOutcome k false fams = .err ↔
      ∃ f ∈ fams, f.samples.isEmpty = true ∨ f.name.isEmpty = true ∨ (k = .text ∧ f.ty = .untyped) := by
  induction fams with
  | nil => simp [encodeOutcome]
  | cons f r ih =>
    rw [encodeOutcome_cons]
    simp only [List.mem_cons, exists_eq_or_imp, ← ih, Bool.false_eq_true, false_or]
    split
    · next h => simpa using Or.inl h
    · next h => exact ⟨Or.inr, fun h' => h'.elim (fun h' => absurd h' h) id⟩

-- non-vacuity: a NaN bound is `Err`, not a panic; a multi-byte character before the first special byte
example : checkAndAdjustP [f64One] [f64One, 0x7FF8000000000000] = .err := by decide +kernel
example : (escapeSliceP "café\\menu".toList false).isPanic = false := escapeSliceP_no_panic _ _

/-- generated-constant obligation: `DEFAULT_BUCKETS` (regenerated from src/histogram.rs) is
    non-empty — the hypothesis of `checkAndAdjustP_no_panic` — and itself an accepted list -/
theorem default_buckets_nonempty : Gen.defaultBuckets ≠ [] ∧ bucketsOk Gen.defaultBuckets = true := by
  decide

/-- lookups never change the declared label names (nor whether building fails) -/
theorem afterLookups_names (v : MVec) (pre : List (List Str)) :
    (afterLookups v pre).names = v.names ∧ (afterLookups v pre).buildFails = v.buildFails :=
  ⟨(afterLookups_inv v pre).1, (afterLookups_inv v pre).2.1⟩

/-- `get_metric_with_label_values` on a vector in ANY state (whatever children it
    already holds) whose metric builder does not fail: it returns Ok exactly when one value per
    declared label is given -/
theorem lookup_ok_iff (v : MVec) (hb : v.buildFails = false) (vals : List Str) :
    (∃ id, (withLabelValues v vals).2 = .ok id) ↔ vals.length = v.names.length := by
  by_cases hl : vals.length = v.names.length
  · rw [withLabelValues_ok v vals hl]
    rcases getOrCreate_cases v (vecKey vals) vals with ⟨id, _, e⟩ | ⟨_, h, _⟩ | ⟨_, _, e⟩
    · rw [e]; exact ⟨fun _ => hl, fun _ => ⟨id, rfl⟩⟩
    · rw [hb] at h; cases h
    · rw [e]; exact ⟨fun _ => hl, fun _ => ⟨_, rfl⟩⟩
  · rw [withLabelValues_err v vals hl]
    exact ⟨(fun ⟨_, h⟩ => nomatch h), fun h => absurd h hl⟩

/-- no history of earlier lookups (so no set of existing
    children, in particular not the child of the empty value) makes an ill-formed lookup succeed:
    it is refused with the cardinality error and the vector is left as it was -/
theorem illformed_lookup_after_any_history (v0 : MVec) (pre : List (List Str)) (vals : List Str)
    (h : vals.length ≠ v0.names.length) :
    withLabelValues (afterLookups v0 pre) vals =
      (afterLookups v0 pre, .error (.card v0.names.length vals.length)) := by
  have hn := (afterLookups_names v0 pre).1
  rw [withLabelValues_err _ vals (hn ▸ h), hn]

/-- `remove_label_values` on a vector in any state returns Ok exactly when it is
    well-formed and the key of the given values is present -/
theorem remove_ok_iff (v : MVec) (vals : List Str) :
    (removeLabelValues v vals).2 = .ok () ↔
      (vals.length = v.names.length ∧ (lookupKey v (vecKey vals)).isSome = true) := by
  by_cases hl : vals.length = v.names.length
  · rw [removeLabelValues_ok v vals hl, removeKey]
    cases lookupKey v (vecKey vals) <;> simp [hl]
  · simp [removeLabelValues_err v vals hl, hl]

/-- a well-formed removal of values that an earlier well-formed lookup
    created (builder not failing, no removal in between) succeeds -/
theorem remove_after_lookup_ok (v0 : MVec) (hb : v0.buildFails = false) (pre : List (List Str))
    (vals : List Str) (hm : vals ∈ pre) (hl : vals.length = v0.names.length) :
    (removeLabelValues (afterLookups v0 pre) vals).2 = .ok () := by
  rw [remove_ok_iff]
  exact ⟨by rw [(afterLookups_names v0 pre).1]; exact hl,
    alook_isSome.2 ((afterLookups_inv v0 pre).2.2 hb vals hm hl)⟩

/-- a vector without children refuses every removal -/
theorem remove_fresh_err (v : MVec) (hc : v.children = []) (vals : List Str) :
    ∃ e, (removeLabelValues v vals).2 = .error e := by
  by_cases hl : vals.length = v.names.length
  · exact ⟨.msg, by rw [removeLabelValues_ok v vals hl, removeKey, lookupKey, hc]; rfl⟩
  · exact ⟨_, by rw [removeLabelValues_err v vals hl]⟩

end Prom.C17
