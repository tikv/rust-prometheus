import Prom.Props.C01
import Std.Data.String.ToInt
/-
C11 — Gauge operations are atomic. Same step machine as C01 (`Conc.aEv` / `Conc.aStep`), with `set`,
`add`, `sub`, `inc`, `dec`; `sub d` on a float gauge is `add (-d)` through the same compare-exchange
loop, on an integer gauge one `fetch_sub` (or a compare-exchange loop with wrapping subtraction); a `set` is
one store or one swap.
-/
namespace Prom.C11
open Prom.Conc Prom.C01

/-- every returned value and the final value of a gauge are explained by
    executing the calls one at a time, in the order of their commit steps (each a step of its own
    call, hence consistent with real time), against the sequential specification `specApply`
    (`set`, `add`, `sub`, `inc`, `dec`, `get`) -/
theorem gauge_linearizable {float : Bool} {prog : List (List String)} {s : ASt}
    (h : AReach (aInit float false prog) s) : specRun s.float 0 s.lin = some s.mem :=
  cell_linearizable h

/-- each call of a gauge takes effect exactly once: concurrent add / sub / inc / dec are never lost -/
theorem gauge_exactly_once {float : Bool} {prog : List (List String)} {s : ASt}
    (h : AReach (aInit float false prog) s) (t : Nat) (th : Th APc) (hth : s.ths[t]? = some th) (i : Nat) :
    commits s.lin t i =
      if i < th.idx then (if skipOp (th.ops.getD i "") then 0 else 1)
      else if i = th.idx ∧ th.retv.isSome ∧ skipOp (th.ops.getD i "") = false then 1 else 0 :=
  exactly_once h t th hth i

/-- the commit order of a gauge (`set`, `add`, `sub`, `inc`, `dec`, `get`;
    float or integer) is consistent with real time. Take any state `s` of an accepted run and any
    continuation to `s'`. A call (`t`, `i`) that has RETURNED in `s` and a call (`t'`, `i'`) that in
    `s` has not started (or is in progress but has not taken effect yet): wherever the two appear in
    the later commit log - the order `gauge_linearizable` executes the calls in -, the first is before
    the second. So a `get` that begins after a `set` / `add` has returned is explained with that
    update before it, and an update that begins after a `get` has returned is not seen by it. -/
theorem gauge_real_time_order {float : Bool} {prog : List (List String)} {s s' : ASt}
    (h : AReach (aInit float false prog) s) (h' : AReach s s')
    {t t' : Nat} {th th' : Th APc} (hth : s.ths[t]? = some th) (hth' : s.ths[t']? = some th')
    {i i' : Nat} (hret : i < th.idx) (hnot : th'.idx < i' ∨ (i' = th'.idx ∧ th'.retv = none))
    {p q : Nat} {x y : LinEv} (hx : s'.lin[p]? = some x) (hy : s'.lin[q]? = some y)
    (hxt : x.tid = t ∧ x.idx = i) (hyt : y.tid = t' ∧ y.idx = i') : p < q :=
  real_time_commit_order h h' hth hth' hret hnot hx hy hxt hyt

/-- a `set` is one atomic write of one 64-bit pattern: the accepted event is a single
    store, or a single swap (`set` written as `swap` with the result ignored; the swap read exactly the
    current value of the cell), whose operand is the whole new value; the cell holds exactly that value
    afterwards, and the call is complete with that one step. -/
theorem set_not_torn {float : Bool} {mem : UInt64} {op : String} {e : Ev} {mem' : UInt64} {nx : APc ⊕ String}
    (hn : opName op = "set") (h : aEv float mem op .start e = .ok (mem', nx)) :
    (e.k = "S" ∨ (e.k = "W" ∧ e.res = mem)) ∧ mem' = e.a ∧ nx = .inr "" :=
  set_reset_not_torn (by rw [hn]; decide) (by rw [hn]; decide) h

/-- a `reset` is one atomic write as well: one store or one swap (which read the current value) of the whole zero
    pattern -/
theorem reset_not_torn {float : Bool} {mem : UInt64} {op : String} {e : Ev} {mem' : UInt64} {nx : APc ⊕ String}
    (hn : opName op = "reset") (h : aEv float mem op .start e = .ok (mem', nx)) :
    (e.k = "S" ∨ (e.k = "W" ∧ e.res = mem)) ∧ mem' = e.a ∧ nx = .inr "" :=
  set_reset_not_torn (by rw [hn]; decide) (by rw [hn]; decide) h

theorem splitOn_set5 : "set:5".splitOn ":" = ["set", "5"] := splitOn_set_5
theorem opName_set5 : opName "set:5" = "set" := opName_of_split splitOn_set5
theorem opArg_set5 : opArg "set:5" = "5" := opArg_of_split splitOn_set5
/-- `String.toInt?` does not reduce; it goes through `Nat.toNat?_repr` -/
theorem parseIntArg_5 : parseIntArg "5" = 5 := by
  have hn : "5".toNat? = some 5 := by rw [← repr_5]; exact Nat.toNat?_repr 5
  have hi : "5".toInt? = some 5 := String.toInt?_eq_some_iff.2 (Or.inl ⟨5, hn, rfl⟩)
  simp [parseIntArg, hi]
theorem u64OfInt_five : u64OfInt 5 = 5 := by decide +kernel
theorem hexStr_five : hexStr 5 = "5" := by decide +kernel

/-- `set` / `reset` written as a `swap` whose result is ignored is accepted:
    `setSwapTrace` is an accepted run of the integer gauge machine; the commit log is
    `inc, set:5, get (= 5), reset`, each call committed exactly once at its one step, and the cell ends at `0`.
    The plain store is accepted too (`reset_allows_decrease_run`). -/
theorem set_as_swap_accepted :
    ∃ s, runItems aItem (aInit false false [["inc", "set:5", "reset"], ["get"]]) setSwapTrace 0 = .ok s ∧
      AReach (aInit false false [["inc", "set:5", "reset"], ["get"]]) s ∧
      s.lin = [⟨0, 0, "inc", ""⟩, ⟨0, 1, "set:5", ""⟩, ⟨1, 0, "get", "5"⟩, ⟨0, 2, "reset", ""⟩] ∧
      s.mem = 0 ∧ allDone s.ths = true := by
  refine RT.accepted runItems_reach ?_
  rw [RT.runItems_of_take 5 setSwap_run5 5]
  simp [runItems, setSwapTrace, setSwapS5, aItem, aStep, aEv, aEvStart, Conc.guard, openCall, closeCall, repr_0,
    repr_1, repr_2, opName_get, opName_reset, opName_set5, opArg_set5, parseIntArg_5, u64OfInt_zero, u64OfInt_five,
    ordGe_self, ordGe_relaxed, hexStr_five, allDone, -getElem?_pos, List.getElem?_cons_zero, List.getElem?_cons_succ]

/-- the swap is checked: `setSwapTrace` with the first swap reporting a wrong old value (`0`; the cell holds
    `1`) is rejected at that event (item 5) -/
theorem set_as_swap_wrong_old_value_rejected :
    ∃ m, runItems aItem (aInit false false [["inc", "set:5", "reset"], ["get"]])
        (setSwapTrace.take 5 ++ [.ev ⟨0, "W", "v0", "Relaxed", 5, 0, 0, true⟩]) 0 = .error m ∧ m.startsWith "diverge@5: set:" = true := by
  rw [RT.runItems_append setSwap_run5 _ 5]
  simp [runItems, setSwapS5, aItem, aStep, aEv, aEvStart, Conc.guard, repr_5, opName_set5, opArg_set5, parseIntArg_5,
    u64OfInt_five, ordGe_self, hexStr_five, hexStr_one, -getElem?_pos, List.getElem?_cons_zero]
  decide +kernel

/-- DESIGN §5 "sub_undoes_add" (integers): on the integer flavours the cell is updated by wrapping
    `fetch_add` / `fetch_sub`, and `x + d - d = x` for every 64-bit value: no clamping, no second
    step, even at the ends of the range -/
theorem sub_undoes_add_int (x d : UInt64) : x + d - d = x := by
  rw [UInt64.add_sub_cancel]

/-- on the integer gauge, `add d` followed by `sub d` in the sequential specification restores the value -/
theorem spec_sub_undoes_add_int (v : UInt64) (a : String)
    (hadd : opName ("add:" ++ a) = "add") (hsub : opName ("sub:" ++ a) = "sub")
    (ea : opArg ("sub:" ++ a) = opArg ("add:" ++ a)) :
    ∃ v1, specApply false v ("add:" ++ a) = some (v1, "") ∧ specApply false v1 ("sub:" ++ a) = some (v, "") := by
  refine ⟨v + intDelta ("add:" ++ a), ?_, ?_⟩
  · simp [specApply, hadd, isSubOp]
  · have : intDelta ("sub:" ++ a) = intDelta ("add:" ++ a) := by simp [intDelta, hadd, hsub, ea]
    simp [specApply, hsub, isSubOp, this, UInt64.add_sub_cancel]

/-- the float delta of `sub d` is the negation of the delta of `add d` (sign-bit flip), so `sub`
    applies `+ (-d)` through the same compare-exchange loop as `add` -/
theorem sub_is_add_neg (a : String) (hs : opName ("sub:" ++ a) = "sub") (ha : opName ("add:" ++ a) = "add")
    (ea : opArg ("sub:" ++ a) = opArg ("add:" ++ a)) :
    floatDelta ("sub:" ++ a) = (floatDelta ("add:" ++ a)).map f64NegOp := by
  simp [floatDelta, hs, ha, ea]

end Prom.C11
