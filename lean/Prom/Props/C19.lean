import Prom.Lemmas.StaticFlush
import Prom.Lemmas.ListAux
/-
C19 — static-metric accessors address exactly the declared label values.
For ALL declarations (any number of labels and values) and all orders of the backing vector's names.
Aliases (two field names with one value) address one child (`alias_same_child`); the generated
`flush()` of the local / auto-flush flavours delivers every update made through every field path,
aliases included (`flush_delivers`, `flush_idempotent`; model `Prom/Model/StaticFlush.lean`), and a
flush that skipped alias fields would not (`flush_skipping_aliases_loses`).
-/
namespace Prom.C19
open Prom.SM

/-- the field path `f1.….fn` denotes exactly the child whose label map is
    `{key_i ↦ value_i(f_i)}`, in declaration order after the enclosing values; an undeclared field
    or a path of the wrong length denotes nothing -/
theorem path_resolves : ∀ (d : Decl) (prev : List (Str × Str)) (path : List Str) (m : List (Str × Str)),
    resolve d prev path = some m ↔
      ∃ vs : List Str, d.length = path.length ∧ vs.length = d.length ∧
        (∀ i (h : i < d.length) (hp : i < path.length) (hv : i < vs.length), valueOf d[i] path[i] = some vs[i]) ∧
        m = prev ++ (d.map (·.key)).zip vs := by
  intro d prev path m
  rw [resolve_eq]
  split
  · next hl =>
    -- the values `vs` exist iff `zipWith valueOf d path = vs.map some`, read position by position
    have pos : ∀ vs : List Str, List.zipWith valueOf d path = vs.map some ↔ d.length = vs.length ∧
        ∀ i (h₁ : i < d.length) (h₂ : i < vs.length), valueOf d[i] (path[i]'(hl ▸ h₁)) = some vs[i] := fun vs => by
      rw [List.ext_getElem_iff]; simp [← hl]
    simp only [Option.map_eq_some_iff, mapM_id_eq_some_iff, pos]
    constructor
    · rintro ⟨vs, ⟨hvl, hall⟩, rfl⟩
      exact ⟨vs, hl, hvl.symm, fun i h _ hv => hall i h hv, rfl⟩
    · rintro ⟨vs, _, hvl, hall, rfl⟩
      exact ⟨vs, ⟨hvl.symm, fun i h hv => hall i h (hl ▸ h) hv⟩, rfl⟩
  · next hl => exact ⟨nofun, fun ⟨_, h, _⟩ => absurd h hl⟩

/-- `try_get(s)` is `Some` exactly for a declared value string -/
theorem try_get_some_iff_declared (l : LabelDef) (s : Str) :
    (tryGetField l s).isSome = true ↔ s ∈ l.values.map (·.2) := by
  simp only [tryGetField, Option.isSome_map, List.find?_isSome, List.mem_map, beq_iff_eq]

/-- the field `try_get(s)` returns is a declared field carrying the value `s` -/
theorem try_get_field_has_value (l : LabelDef) (s f : Str) (h : tryGetField l s = some f) :
    ∃ p ∈ l.values, p.1 = f ∧ p.2 = s := by
  obtain ⟨p, hm, hp, hf⟩ := find?_map_some h
  exact ⟨p, hm, hf, by simpa using hp⟩

/-- `get(variant)` is the field of that name -/
theorem get_enum_eq_field (l : LabelDef) (variant f : Str) (h : getField l variant = some f) : f = variant := by
  obtain ⟨p, _, hp, hf⟩ := find?_map_some h
  rw [← hf]; simpa using hp

/-- the vector reads a label map only through lookups of its own label names: two maps that answer
    every such lookup alike denote the same child, whatever the order of their entries -/
theorem child_independent_of_map_order (backing : List Str) (m m' : List (Str × Str))
    (h : ∀ n ∈ backing, (m.find? (·.1 == n)).map (·.2) = (m'.find? (·.1 == n)).map (·.2)) :
    childValues backing m = childValues backing m' :=
  mapM_option_congr h

/-- the sum of the recorded field offsets is the address of the nested leaf
    in the inline thread-local struct -/
theorem delegator_address (base : Nat) (offsets : List Nat) :
    delegatorAddress base offsets = leafAddress base offsets := by
  induction offsets generalizing base with
  | nil => simp [delegatorAddress, leafAddress]
  | cons o r ih =>
    have := ih (base + o)
    simp only [delegatorAddress, leafAddress, List.sum_cons] at this ⊢
    omega

/-- labels `m {p, g}`, `v {1: "H1", 2: "H2"}` (renamed values), `p {f}` -/
def d3 : Decl := [⟨[109], [([112], [112]), ([103], [103])]⟩, ⟨[118], [([49], [72, 49]), ([50], [72, 50])]⟩, ⟨[112], [([102], [102])]⟩]
-- non-vacuity: the path `p.2.f`
example : resolve d3 [] [[112], [50], [102]] = some [([109], [112]), ([118], [72, 50]), ([112], [102])] := by decide +kernel

/-- one level: two field names with the same declared value (or both undeclared) can be exchanged at
    the head of a path without changing what the path resolves to -/
theorem resolve_head_alias (l : LabelDef) (ls : Decl) (prev : List (Str × Str)) (f g : Str) (fs : List Str)
    (h : valueOf l f = valueOf l g) :
    resolve (l :: ls) prev (f :: fs) = resolve (l :: ls) prev (g :: fs) := by
  rw [resolve_cons, resolve_cons, h]

/-- two field paths that differ only in field names that map to equal values
    (level by level `valueOf d[i] p[i] = valueOf d[i] q[i]`; the field names themselves may all differ)
    resolve to the same label map — the same `Option`: either both denote nothing or both denote the
    same child -/
theorem alias_same_child : ∀ (d : Decl) (prev : List (Str × Str)) (p q : List Str),
    p.length = q.length →
    (∀ i (hd : i < d.length) (hp : i < p.length) (hq : i < q.length), valueOf d[i] p[i] = valueOf d[i] q[i]) →
    resolve d prev p = resolve d prev q := by
  intro d prev p q hlen h
  -- the closed form reads the paths only through `zipWith valueOf d ·`
  rw [resolve_eq, resolve_eq, hlen, List.ext_getElem (l₁ := List.zipWith valueOf d p) (l₂ := List.zipWith valueOf d q)
    (by simp [hlen]) fun i h1 h2 => by
      simp only [List.length_zipWith, Nat.lt_min] at h1 h2
      simpa using h i h1.1 h1.2 h2.2]

/-- alias paths (`alias_same_child`) address the same child of the backing vector, whatever the order of the
    vector's label names -/
theorem alias_same_child_values (backing : List Str) (d : Decl) (prev : List (Str × Str)) (p q : List Str)
    (hlen : p.length = q.length)
    (h : ∀ i (hd : i < d.length) (hp : i < p.length) (hq : i < q.length), valueOf d[i] p[i] = valueOf d[i] q[i]) :
    (resolve d prev p).bind (childValues backing) = (resolve d prev q).bind (childValues backing) := by
  rw [alias_same_child d prev p q hlen h]

/-- the usual case spelled out: under ONE label `l` (anywhere in the declaration) two fields `f`, `g`
    declared with the same value — the paths `a.f.b` and `a.g.b` address the same child -/
theorem alias_one_label (pre : Decl) (l : LabelDef) (post : Decl) (prev : List (Str × Str))
    (a : List Str) (f g : Str) (b : List Str) (ha : a.length = pre.length)
    (h : valueOf l f = valueOf l g) :
    resolve (pre ++ l :: post) prev (a ++ f :: b) = resolve (pre ++ l :: post) prev (a ++ g :: b) := by
  simp only [resolve_eq, List.length_append, List.length_cons, List.zipWith_append ha.symm, List.zipWith_cons_cons, h]

/-- in the generated local struct tree the two alias paths are DIFFERENT leaves (own pending amounts)
    created from the SAME child -/
theorem alias_leaves_same_child (d : Decl) (p q : List Str) (hlen : p.length = q.length)
    (h : ∀ i (hd : i < d.length) (hp : i < p.length) (hq : i < q.length), valueOf d[i] p[i] = valueOf d[i] q[i]) :
    denotes (buildLeaves d []) p = denotes (buildLeaves d []) q := by
  rw [denotes_buildLeaves, denotes_buildLeaves, alias_same_child d [] p q hlen h]

/-- the leaf a field path reaches in the tree built by `from` holds the
    local metric of exactly the child `resolve` computes; undeclared paths reach nothing -/
theorem leaf_child_eq_resolve (d : Decl) (p : List Str) :
    denotes (buildLeaves d []) p = resolve d [] p := denotes_buildLeaves d [] p

/-- an `inc` through a path stays in the leaf: the shared vector is untouched until a flush -/
theorem inc_keeps_store (t : LocalTree) (p : List Str) (n : Nat) : (t.incBy p n).store = t.store := rfl

/-- at every moment (any interleaving of `inc`s through any paths and `flush`es),
    for every child: its value plus the pending amounts of all the leaves over it (aliases included)
    is its initial value plus everything `inc`ed through paths that denote it -/
theorem conservation (d : Decl) (st0 : Child → Nat) (ops : List TOp) (c : Child) :
    ((LocalTree.init d st0).run ops).store c + pendingFor ((LocalTree.init d st0).run ops).leaves c
      = st0 c + delivered d c ops := by
  have := run_conserves d ops (LocalTree.init d st0) c (denotes_buildLeaves d [])
  rw [this]
  simp only [LocalTree.init, pendingFor_zero _ c (buildLeaves_pending d [])]
  omega

/-- for any declaration and any sequence of operations (`inc`s through any field
    paths, with intermediate flushes allowed) followed by one `flush()`: every child's value is its
    initial value plus the amounts `inc`ed through the field paths that denote it (`delivered`: the
    paths `p` with `resolve d [] p = some c` — all aliases count), and every leaf's pending amount
    is zero -/
theorem flush_delivers (d : Decl) (st0 : Child → Nat) (ops : List TOp) :
    (∀ c, (((LocalTree.init d st0).run ops).flush).store c = st0 c + delivered d c ops) ∧
    (∀ lf ∈ (((LocalTree.init d st0).run ops).flush).leaves, lf.pending = 0) := by
  refine ⟨fun c => ?_, ?_⟩
  · simp only [LocalTree.flush, flushStore_apply]
    exact conservation d st0 ops c
  · exact zeroed_pending _

/-- `inc`s by one through the paths `ps` deliver to child `c` the number of those paths that denote `c` -/
theorem delivered_incs (d : Decl) (c : Child) (ps : List (List Str)) :
    delivered d c (ps.map fun p => TOp.inc p 1) = ps.countP (fun p => decide (resolve d [] p = some c)) := by
  induction ps with
  | nil => rfl
  | cons p r ih =>
    simp only [List.map_cons, delivered, ih, List.countP_cons, decide_eq_true_eq]
    omega

/-- the form of the property text: after `inc`s through the paths `ps`
    (in that order, any paths) and one `flush()`, starting from a fresh vector, the value of every child
    is the NUMBER of `inc`s made through paths that denote it, and nothing is pending -/
theorem flush_delivers_count (d : Decl) (ps : List (List Str)) :
    (∀ c, (((LocalTree.init d (fun _ => 0)).run (ps.map fun p => TOp.inc p 1)).flush).store c
        = ps.countP (fun p => decide (resolve d [] p = some c))) ∧
    (∀ lf ∈ (((LocalTree.init d (fun _ => 0)).run (ps.map fun p => TOp.inc p 1)).flush).leaves, lf.pending = 0) := by
  obtain ⟨h1, h2⟩ := flush_delivers d (fun _ => 0) (ps.map fun p => TOp.inc p 1)
  refine ⟨fun c => ?_, h2⟩
  rw [h1 c, delivered_incs]
  omega

/-- a second `flush()` changes nothing (neither the vector nor the tree) -/
theorem flush_idempotent (t : LocalTree) : t.flush.flush = t.flush := by
  show LocalTree.mk _ _ = LocalTree.mk _ _
  congr 1
  · funext c
    simp only [LocalTree.flush]
    rw [flushStore_apply, pendingFor_zero _ c (zeroed_pending _)]
    rfl
  · simp only [LocalTree.flush, List.map_map]
    rfl

/-- label `k { a: "x", b: "x" }`: fields `a` and `b` are aliases of the child `{k ↦ x}` -/
def dAlias : Decl := [⟨[107], [([97], [120]), ([98], [120])]⟩]

/-- a generated flush that visited only the first field per distinct
    value (enough to reach every CHILD) would lose updates: with `k { a: "x", b: "x" }`, one `inc`
    through the alias `b` and a flush, the child `{k ↦ x}` (which `b` denotes) still reads 0 and the
    update sits in leaf `b` for ever, while the real `flush()` delivers it -/
theorem flush_skipping_aliases_loses :
    resolve dAlias [] [[98]] = some [([107], [120])] ∧
    (((LocalTree.init dAlias (fun _ => 0)).inc [[98]]).flushSkippingAliases dAlias).store [([107], [120])] = 0 ∧
    pendingFor (((LocalTree.init dAlias (fun _ => 0)).inc [[98]]).flushSkippingAliases dAlias).leaves [([107], [120])] = 1 ∧
    (((LocalTree.init dAlias (fun _ => 0)).inc [[98]]).flush).store [([107], [120])] = 1 := by
  decide +kernel

/-- labels `m {p: "p", q: "p"}` (aliases), `v {1: "H1", 2: "H2"}` -/
def d2 : Decl := [⟨[109], [([112], [112]), ([113], [112])]⟩, ⟨[118], [([49], [72, 49]), ([50], [72, 50])]⟩]
-- non-vacuity: three `inc`s reach `{m ↦ p, v ↦ H1}` through the two alias paths, one reaches `{m ↦ p, v ↦ H2}`
example :
    let t := ((LocalTree.init d2 (fun _ => 0)).run
      [.inc [[112], [49]] 1, .inc [[113], [49]] 1, .flush, .inc [[113], [49]] 1, .inc [[112], [50]] 1]).flush
    t.store [([109], [112]), ([118], [72, 49])] = 3 ∧ t.store [([109], [112]), ([118], [72, 50])] = 1 ∧
    t.leaves.length = 4 := by
  decide +kernel

end Prom.C19
