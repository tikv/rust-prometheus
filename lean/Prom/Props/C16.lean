import Prom.Model.DataModel
/-
C16 — Exposition does not depend on the protobuf feature.
The library and the text encoder touch `prometheus::proto` only through setters and getters; for
every sequence of those calls the protobuf-backed model (optional fields, default on read) and the
plain model are related by the abstraction `abs…`, so every read used by `gather()` and by the text
encoder returns the same value in both builds.
-/
namespace Prom.C16
open Prom.DM

/-- every metric operation commutes with the abstraction -/
theorem metric_step (m : PMetric) (op : MetricOp) : absMetric (m.apply op) = (absMetric m).apply op := by
  cases op with
  | setHistogram c s bs =>
    -- both bucket lists are maps over `bs`; a bucket field that was set reads as what was set
    simp only [PMetric.apply, QMetric.apply, absMetric, absHist, Option.getD_some, mkPBuckets, mkQBuckets, List.map_map]
    rfl
  | _ => rfl

/-- a metric built by the same calls from `default()` reads the same in both models -/
theorem build_agree (ops : List MetricOp) : absMetric (buildP ops) = buildQ ops :=
  (List.foldl_hom absMetric fun m op => (metric_step m op).symm).symm

/-- every family operation commutes with the abstraction -/
theorem family_step (f : PFamily) (op : FamilyOp) : absFamily (f.apply op) = (absFamily f).apply op := by
  cases op with
  | setMetric ms =>
    simp only [PFamily.apply, QFamily.apply, absFamily, List.map_map]
    congr 1
    exact List.map_congr_left fun ops _ => build_agree ops
  | pushMetric ops =>
    simp only [PFamily.apply, QFamily.apply, absFamily, List.map_append, List.map_cons, List.map_nil, build_agree]
  | _ => rfl

/-- for every sequence of data-model calls, starting from `default()`, the
    protobuf-backed family reads exactly as the plain family: name, help, type, and for every metric
    its labels, counter / gauge value, histogram count, sum and buckets, and timestamp. Hence
    `gather()`'s structure and every value the text encoder prints are identical in both builds. -/
theorem render_agree (ops : List FamilyOp) :
    absFamily (ops.foldl PFamily.apply {}) = ops.foldl QFamily.apply {} :=
  (List.foldl_hom absFamily fun f op => (family_step f op).symm).symm

/-- the defaults agree: an untouched family reads as name "", help "", type COUNTER, no metrics -/
theorem defaults_agree : absFamily {} = ({} : QFamily) := rfl

-- non-vacuity of `render_agree`: a gauge family built the way `Value::collect` builds it
example : absFamily (([.setName [109], .setHelp [104], .setType .gauge, .setMetric [[.setLabel [⟨some [97], some [49]⟩], .setGaugeValue 5]]] : List FamilyOp).foldl PFamily.apply {})
    = ([.setName [109], .setHelp [104], .setType .gauge, .setMetric [[.setLabel [⟨some [97], some [49]⟩], .setGaugeValue 5]]] : List FamilyOp).foldl QFamily.apply {} :=
  render_agree _

/-- the timestamp both builds read back from a metric built by the same
    calls is the same number (`gather`'s tie-break between samples of equal label values reads it
    through `timestamp_ms()`, which exists in both data models) -/
theorem timestamp_read_agrees (ops : List MetricOp) :
    (buildP ops).timestampMs.getD 0 = (buildQ ops).timestampMs :=
  congrArg QMetric.timestampMs (build_agree ops)

/-- a timestamp explicitly set to 0 and one never set read
    alike: the protobuf-backed metric keeps the difference (`Some 0` vs `None`), the plain one cannot,
    and the abstraction both builds are compared through identifies them. Code that consults the
    presence bit (`has_timestamp_ms`) therefore does not factor through the common reading and may
    make the builds differ — the two-build scenario exercises exactly this pair. -/
theorem timestamp_presence_not_observable (m : PMetric) (h : m.timestampMs = none) :
    absMetric (m.apply (.setTimestamp 0)) = absMetric m ∧
      (m.apply (.setTimestamp 0)).timestampMs ≠ m.timestampMs ∧
      ((absMetric m).apply (.setTimestamp 0)) = absMetric m := by
  refine ⟨?_, ?_, ?_⟩
  · simp [absMetric, PMetric.apply, h]
  · simp [PMetric.apply, h]
  · simp [absMetric, QMetric.apply, h]

end Prom.C16
