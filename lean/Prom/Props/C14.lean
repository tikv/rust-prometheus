import Prom.Props.C07
/-
C14 — A gathered family never mixes metric types.

The full statement is FALSE of the code (known finding K2): neither the descriptor id nor the
dimension hash mentions the metric type, so a counter m{k="1"} and a gauge m{k="2"} with the same
help are both admitted, end up in one family, and the family's declared type is the type of
whichever collector the hash map yields first. `C14_full_false` proves this on the model with the
concrete witness (replayed on the real code by the `reg` corpus); `homogeneous_partial` is the
property under the hypothesis that collectors sharing a name have the same kind.
-/
namespace Prom.C14

/-- collectors that share a name have the same kind, and every collected sample carries a value of
    its family's type (true for every library collector) -/
def Homogeneous (collected : List Family) : Prop :=
  (∀ f ∈ collected, ∀ s ∈ f.samples, s.val.kind = f.ty) ∧
  (∀ f ∈ collected, ∀ g ∈ collected, f.samples ≠ [] → g.samples ≠ [] → f.name = g.name → f.ty = g.ty)

/-- two collected families with samples and the same name have the same type (the second conjunct of `Homogeneous`,
    which spells it out; `C07.SameAttrs` asks the same of help and type together) -/
def NonemptySameType (collected : List Family) : Prop :=
  ∀ f ∈ collected, ∀ g ∈ collected, f.samples ≠ [] → g.samples ≠ [] → f.name = g.name → f.ty = g.ty

/-- `gather` drops the families a collector returns without samples
    before merging, so they cannot influence anything (in particular not the declared type of a
    family): gathering is gathering the families that have a sample. -/
theorem empty_families_invisible (pref : Option Str) (labels : Option (List (Str × Str))) (collected : List Family) :
    gatherFams pref labels collected =
      gatherFams pref labels (collected.filter fun f => !f.samples.isEmpty) := by
  rw [C07.gatherFams_eq, C07.gatherFams_eq, ← C07.merged_filter_nonempty]

/-- if two collected families with samples and the same name always have the same type (`NonemptySameType`;
    families without samples may have any type), then for every iteration order `collected'` of the collectors every
    gathered family is the family of a name `n` under which a collected family with samples exists, its declared type
    is the type of EVERY collected family with samples named `n`, and each of its samples is a sample (with the common
    labels appended) of a collected family of that name and type. -/
theorem homogeneous_nonempty_pairwise (pref : Option Str) (labels : Option (List (Str × Str)))
    (collected collected' : List Family) (hp : collected.Perm collected') (hh : NonemptySameType collected) :
    ∀ f ∈ gatherFams pref labels collected', ∃ n, f.name = applyPrefix pref n ∧
      (∃ c ∈ collected, c.samples ≠ [] ∧ c.name = n) ∧
      (∀ c ∈ collected, c.samples ≠ [] → c.name = n → c.ty = f.ty) ∧
      ∀ s ∈ f.samples, ∃ c ∈ collected, c.name = n ∧ c.ty = f.ty ∧
        ∃ s0 ∈ c.samples, s = { s0 with labels := s0.labels ++ commonPairs labels } := by
  intro f hf
  obtain ⟨g, hg, hn, _, hty, ss, hperm, hsamp⟩ := C07.gather_family_samples pref labels collected' f hf
  -- the family's type is that of a collected family `c0` with samples; every other one agrees with `c0`
  obtain ⟨c0, hc0', hne0, hn0, _, hty0⟩ := C07.merged_attrs collected' g hg
  have hc0 := hp.mem_iff.2 hc0'
  have hall : ∀ c ∈ collected, c.samples ≠ [] → c.name = g.name → c.ty = f.ty := fun c hc hne hcn => by
    rw [hty, ← hty0]; exact hh c hc c0 hc0 hne hne0 (hcn.trans hn0.symm)
  refine ⟨g.name, hn, ⟨c0, hc0, hne0, hn0⟩, hall, fun s hs => ?_⟩
  rw [hsamp] at hs
  obtain ⟨s0, hs0, rfl⟩ := List.mem_map.1 hs
  obtain ⟨c, hc', hcn, hsc⟩ := C07.merged_sample_origin collected' g hg s0 (hperm.subset hs0)
  have hc := hp.mem_iff.2 hc'
  exact ⟨c, hc, hcn, hall c hc (fun e => by rw [e] at hsc; cases hsc) hcn, s0, hsc, rfl⟩

/-- `homogeneous_nonempty_pairwise` with the type of each name given as a function: if under every name all collected
    families THAT HAVE A SAMPLE are of one type `ty name` (families without samples may have any type), then for every
    iteration order `collected'` of the collectors every gathered family is the family of a name `n` under which a
    collected family with samples exists, its declared type is `ty n`, and each of its samples is a sample (with the
    common labels appended) of a collected family of that name and of that type. -/
theorem homogeneous_nonempty (pref : Option Str) (labels : Option (List (Str × Str)))
    (collected collected' : List Family) (hp : collected.Perm collected')
    (ty : Str → MType) (hh : ∀ c ∈ collected, c.samples ≠ [] → c.ty = ty c.name) :
    ∀ f ∈ gatherFams pref labels collected', ∃ n, f.name = applyPrefix pref n ∧ f.ty = ty n ∧
      (∃ c ∈ collected, c.samples ≠ [] ∧ c.name = n) ∧
      ∀ s ∈ f.samples, ∃ c ∈ collected, c.name = n ∧ c.ty = ty n ∧
        ∃ s0 ∈ c.samples, s = { s0 with labels := s0.labels ++ commonPairs labels } := by
  have hst : NonemptySameType collected := fun f hf g hg hnf hng hn => by rw [hh f hf hnf, hh g hg hng, hn]
  intro f hf
  obtain ⟨n, h1, ⟨c0, hc0, hne0, hn0⟩, h3, h4⟩ := homogeneous_nonempty_pairwise pref labels collected collected' hp hst f hf
  have hty : f.ty = ty n := by rw [← h3 c0 hc0 hne0 hn0, hh c0 hc0 hne0, hn0]
  exact ⟨n, h1, hty, ⟨c0, hc0, hne0, hn0⟩, fun s hs =>
    let ⟨c, hc, hcn, hct, hrest⟩ := h4 s hs; ⟨c, hc, hcn, hct.trans hty, hrest⟩⟩

/-- the value part of C14 under the weakest hypothesis: when every collected sample carries a value of
    its own family's type and the families with samples under one name have one type, every gathered
    sample carries a value of the gathered family's declared type - whatever types the sample-less
    families declare, for every order. (`homogeneous_partial` is the case `collected' = collected`.) -/
theorem homogeneous_nonempty_values (pref : Option Str) (labels : Option (List (Str × Str)))
    (collected collected' : List Family) (hp : collected.Perm collected')
    (hv : ∀ c ∈ collected, ∀ s ∈ c.samples, s.val.kind = c.ty) (hh : NonemptySameType collected) :
    ∀ f ∈ gatherFams pref labels collected', ∀ s ∈ f.samples, s.val.kind = f.ty := by
  intro f hf s hs
  obtain ⟨n, _, _, _, h4⟩ := homogeneous_nonempty_pairwise pref labels collected collected' hp hh f hf
  obtain ⟨c, hc, _, hct, s0, hs0, rfl⟩ := h4 s hs
  rw [← hct]
  exact hv c hc s0 hs0

/-- if the collectors registered under each name are of one kind, every
    sample of every gathered family carries a value of the family's declared type (so the encoders
    print each sample's real value), for every iteration order of the collectors. -/
theorem homogeneous_partial (pref : Option Str) (labels : Option (List (Str × Str)))
    (collected : List Family) (hh : Homogeneous collected) :
    ∀ f ∈ gatherFams pref labels collected, ∀ s ∈ f.samples, s.val.kind = f.ty :=
  homogeneous_nonempty_values pref labels collected collected (List.Perm.refl _) hh.1 hh.2

/-- the declared type of a family is the type of the collectors under that name — not of whichever
    came first -/
theorem type_is_the_collectors_type (pref : Option Str) (labels : Option (List (Str × Str)))
    (collected : List Family) (hh : Homogeneous collected) :
    ∀ f ∈ gatherFams pref labels collected, ∃ g ∈ C07.merged collected, f.name = applyPrefix pref g.name ∧
      f.ty = g.ty ∧ ∀ c ∈ collected, c.samples ≠ [] → c.name = g.name → c.ty = f.ty := by
  intro f hf
  obtain ⟨g, hg, hn, _, hty, _⟩ := C07.gather_family_samples pref labels collected f hf
  obtain ⟨f0, hf0, hne0, hn0, _, hty0⟩ := C07.merged_attrs collected g hg
  exact ⟨g, hg, hn, hty, fun c hc hne hcn => by rw [hty, ← hty0]; exact hh.2 c hc f0 hf0 hne hne0 (hcn.trans hn0.symm)⟩

/-- under `NonemptySameType` the (name, declared type) list of the
    gathered families does not depend on the order in which the collectors are visited (registration
    order, hash seed), and not on the sample-less families at all. -/
theorem declared_type_order_free (pref : Option Str) (labels : Option (List (Str × Str)))
    (collected collected' : List Family) (hp : collected.Perm collected') (hh : NonemptySameType collected) :
    (gatherFams pref labels collected).map (fun f => (f.name, f.ty)) =
      (gatherFams pref labels collected').map (fun f => (f.name, f.ty)) := by
  rw [C07.gatherFams_eq, C07.gatherFams_eq, List.map_map, List.map_map]
  refine C07.merged_map_perm _ hp fun g hg g' hg' hn => ?_
  obtain ⟨c, hc, hne, hcn, _, hct⟩ := C07.merged_attrs collected g hg
  obtain ⟨c', hc', hne', hcn', _, hct'⟩ := C07.merged_attrs collected' g' hg'
  show (applyPrefix pref g.name, g.ty) = (applyPrefix pref g'.name, g'.ty)
  rw [← hct, ← hct', hn, hh c hc c' (hp.mem_iff.2 hc') hne hne' (by rw [hcn, hcn', hn])]

def emptyGauge : Family := ⟨C07.fA.name, C07.fA.help, .gauge, []⟩

-- non-vacuity: a sample-less GAUGE family under the name of the counters `fA`, `fB` breaks the hypothesis of nothing
-- here (`NonemptySameType` holds, next example), and `gather` is as without it.
example : gatherFams none none [emptyGauge, C07.fA, C07.fB, C07.fC] = gatherFams none none [C07.fA, C07.fB, C07.fC] ∧
    gatherFams none none [C07.fA, emptyGauge, C07.fB, C07.fC] = gatherFams none none [C07.fA, C07.fB, C07.fC] := by
  decide +kernel

example : NonemptySameType [emptyGauge, C07.fA, C07.fB, C07.fC] := by
  unfold NonemptySameType
  decide +kernel

def cnt : Family := ⟨strOfString "m", strOfString "h", .counter, [⟨[⟨strOfString "k", strOfString "1"⟩], .counter 0x3FF0000000000000, 0⟩]⟩
def gau : Family := ⟨strOfString "m", strOfString "h", .gauge, [⟨[⟨strOfString "k", strOfString "2"⟩], .gauge 0x4000000000000000, 0⟩]⟩

/-- the full statement is false (known finding K2): a counter m{k="1"} = 1 and a gauge m{k="2"} = 2 under one name:
    the declared type of the gathered family depends on the iteration order, and in the gauge-typed result the
    counter sample reads as 0 through the family's type. -/
theorem C14_full_false :
    ((gatherFams none none [cnt, gau]).map (·.ty)) = [.counter] ∧
    ((gatherFams none none [gau, cnt]).map (·.ty)) = [.gauge] ∧
    ((gatherFams none none [gau, cnt]).flatMap fun f => f.samples.map (·.gaugeVal)) = [0, 0x4000000000000000] := by
  decide +kernel

-- non-vacuity of `homogeneous_partial`: two same-kind collectors under one name
example : Homogeneous [C07.fA, C07.fB, C07.fC] := by
  unfold Homogeneous
  decide +kernel

end Prom.C14
