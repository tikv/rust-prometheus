import Prom.HP.Order
import Prom.Lemmas.HistRefine
/-
C03 — Histograms conserve observations across any sequence of collects and flushes.
Same model as C02 (`Prom/HP`); this is its history side.
-/
namespace Prom.C03
open Hp

/-- whenever no collector is between flip and unlock: the overall counter
    equals the total weight of everything claimed (so `get_sample_count` agrees), and once every
    in-flight observation on the hot shard has published, the hot shard holds exactly all claimed
    observations — count and every cell (so a further collect returns the stats of all observations
    and `get_sample_sum`, read under the lock from the hot shard, agrees). Nothing is lost or
    counted twice across any number of collections. Stated for the states in which the collect lock is
    free; `Hp.hot_balance` gives the same for every state without a collector past its flip, among them
    the one in which `get_sample_sum` holds the lock and reads. -/
theorem quiescent_total {k : Nat} {s : St} (h : Reach k s) (hl : s.lock = false) :
    s.n = totW s.claimed ∧
    (pendW s.hot s.tasks = 0 → (s.sh s.hot).count = totW s.claimed ∧
      ∀ c, (s.sh s.hot).cell c = tot s.claimed c) :=
  Hp.quiescent_total h hl

/-- snapshots in the order in which the collections returned describe nested
    sets: the cut of an earlier one is a prefix (in claim order) of the cut of every later one, for
    any number of collectors and observers and any interleaving. Nothing a snapshot has shown
    disappears from a later one. -/
theorem snapshots_grow {k : Nat} {s : St} (h : Reach k s) :
    s.snaps.Pairwise (fun p q => p.2 <+: q.2) :=
  (ord_reach h).chain

/-- the counts of the snapshots, in the order in which the collections returned, never decrease (by
    `snapshots_grow`: a later cut extends an earlier one) -/
theorem snapshot_counts_grow {k : Nat} {s : St} (h : Reach k s) :
    s.snaps.Pairwise (fun p q => p.1.count ≤ q.1.count) := by
  have hs := Hp.snapshot_is_prefix h
  refine (snapshots_grow h).imp_of_mem ?_
  intro p q hp hq hpq
  rw [(hs p hp).1, (hs q hq).1]
  obtain ⟨t, ht⟩ := hpq
  rw [← ht, totW_append]
  exact Nat.le_add_right _ _

/-- with no collector active the non-hot shard is completely empty (no
    assigned observation, nothing pending, count and every cell zero): the residue of a drained shard
    is exactly nothing, which is what makes the third and later collections right. -/
theorem merge_carries_all {k : Nat} {s : St} (h : Reach k s) (hl : s.lock = false) :
    s.asg (!s.hot) = [] ∧ pendW (!s.hot) s.tasks = 0 ∧ (s.sh (!s.hot)).count = 0 ∧ ∀ c, (s.sh (!s.hot)).cell c = 0 :=
  ((inv_reach h).normal hl).1

/-- a flushed local batch is *one* observation of the model (weight = its count),
    claimed by a single step: the cut `S` of a snapshot is a list of whole observations, so a batch
    is in a snapshot entirely or not at all. (Stated as the shape of the `claim` step.) -/
theorem batch_atomic {k : Nat} (s : St) (pre post : List Task) (o : Obs)
    (ht : s.tasks = pre ++ Task.obsStart o :: post) :
    Step k s { s with tasks := pre ++ Task.obsRun o s.hot o.upd :: post, n := s.n + o.w,
                      claimed := s.claimed ++ [o], asg := modAsg s.asg s.hot (· ++ [o]) } :=
  Step.claim s pre post o ht

/-- a spinning collector whose cold shard has received every publish it waits
    for can take its next step: nothing but the observations assigned to the cold shard delays it. -/
theorem collect_progress {k : Nat} {s : St} (h : Reach k s) (pre post : List Task) (cold : Bool) (ov : Nat) (S : List Obs)
    (ht : s.tasks = pre ++ Task.colSpin cold ov S :: post) (hp : pendW cold s.tasks = 0) :
    ∃ s', Step k s s' :=
  ⟨_, Step.spinOk s pre post cold ov S ht ((spin_enabled_iff (S := S) h (by simp [ht])).2 hp)⟩

/-- for the replayed implementation: whenever the collect lock is free, the
    observation counter of the machine equals the total weight of everything claimed so far, the
    drained shard is empty, and once no observer is in flight on the hot shard the hot shard holds
    exactly all claimed observations (what a final collect, `get_sample_count` and `get_sample_sum`
    then report; for the state in which `get_sample_sum` holds the lock and reads, `Hp.hot_balance`). -/
theorem replay_conserves {bounds : List UInt64} {prog : List (List String)} {s : HM.St}
    (h : HM.MReach bounds prog s) (hl : s.core.lock = false) :
    s.core.n = totW s.core.claimed ∧
    (∀ c, (s.core.sh (!s.core.hot)).cell c = 0) ∧ (s.core.sh (!s.core.hot)).count = 0 ∧
    (pendW s.core.hot (HM.abs s).tasks = 0 →
      (s.core.sh s.core.hot).count = totW s.core.claimed ∧ ∀ c, (s.core.sh s.core.hot).cell c = tot s.core.claimed c) := by
  have hr := HM.mreach_reach h
  have q := quiescent_total hr hl
  have m := merge_carries_all hr hl
  exact ⟨q.1, m.2.2.2, m.2.2.1, q.2⟩

/-- snapshots returned during a replay are nested in return order -/
theorem replay_snapshots_grow {bounds : List UInt64} {prog : List (List String)} {s : HM.St}
    (h : HM.MReach bounds prog s) : s.core.snaps.Pairwise (fun p q => p.2 <+: q.2) :=
  (ord_reach (HM.mreach_reach h)).chain

end Prom.C03
