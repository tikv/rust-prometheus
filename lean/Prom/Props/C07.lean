import Prom.Lemmas.Merge
import Prom.Lemmas.SampleOrder
import Prom.Lemmas.Desc
import Prom.Lemmas.GatheredNames
import Prom.Props.C06

/-
C07 — gather() is complete, canonically ordered and deterministic.
`gatherFams` is the merge phase (`merged`, in closed form in `Lemmas/Merge.lean`) followed, family by family, by
`finish`: prefix, sample sort, common labels.
-/
namespace Prom.C07

/-- the `BTreeMap` of `gather` holds one family per name, in strictly increasing name order -/
theorem merged_names_strict (collected : List Family) :
    ((merged collected).map (·.name)).Pairwise (· < ·) :=
  (famGet_merged collected).1

/-- one family per name, in strictly increasing name order, for every iteration order of the collectors -/
theorem families_sorted_strict (pref : Option Str) (labels : Option (List (Str × Str))) (collected : List Family) :
    ((gatherFams pref labels collected).map (·.name)).Pairwise (· < ·) := by
  rw [gatherFams_eq, List.map_map, List.pairwise_map]
  exact (List.pairwise_map.1 (merged_names_strict collected)).imp (applyPrefix_lt pref)

/-- under each name, the merged family holds exactly the samples of all collected families of that name (each
    once; as a multiset — the order is fixed by the sort) -/
theorem complete_exactly_once (n : Str) (collected : List Family) :
    (samplesOf n (merged collected)).Perm (samplesOf n collected) := by
  rw [samplesOf_merged]

/-- every output sample is a merged sample with the common labels appended, and sorting only permutes -/
theorem gather_family_samples (pref : Option Str) (labels : Option (List (Str × Str))) (collected : List Family)
    (f : Family) (hf : f ∈ gatherFams pref labels collected) :
    ∃ g ∈ merged collected, f.name = applyPrefix pref g.name ∧ f.help = g.help ∧ f.ty = g.ty ∧
      ∃ ss : List Sample, ss.Perm g.samples ∧ f.samples = ss.map fun s => { s with labels := s.labels ++ commonPairs labels } := by
  obtain ⟨g, hg, rfl⟩ := List.mem_map.1 (gatherFams_eq .. ▸ hf)
  exact ⟨g, hg, rfl, rfl, rfl, _, stableSortBy_perm _ _, rfl⟩

/-- the registry prefix is on every family name and the common labels
    (in name order, whatever the iteration order of the label map) end every sample's label list -/
theorem prefix_labels_everywhere (pref : Option Str) (labels : Option (List (Str × Str))) (collected : List Family)
    (f : Family) (hf : f ∈ gatherFams pref labels collected) :
    (∃ n, f.name = applyPrefix pref n) ∧ ∀ s ∈ f.samples, ∃ l, s.labels = l ++ commonPairs labels := by
  obtain ⟨g, _, hn, _, _, ss, _, hs⟩ := gather_family_samples pref labels collected f hf
  refine ⟨⟨g.name, hn⟩, ?_⟩
  intro s hs'
  rw [hs] at hs'
  obtain ⟨s0, _, rfl⟩ := List.mem_map.1 hs'
  exact ⟨s0.labels, rfl⟩

/-- `gather` emits no family without samples -/
theorem no_empty_family (collected : List Family) : ∀ g ∈ merged collected, g.samples ≠ [] := by
  intro g hg he
  obtain ⟨f, hf, hne, hn, _⟩ := merged_attrs collected g hg
  obtain ⟨s, hs⟩ := List.exists_mem_of_ne_nil _ hne
  have : s ∈ g.samples := by rw [merged_samples collected g hg]; exact mem_samplesOf.2 ⟨f, hf, hn, hs⟩
  rw [he] at this; cases this

/-- the common labels are sorted by name for *every* order of the label map: this is what makes the
    output independent of the hash seed (unsorted common pairs were defect F5, DESIGN §12.4) -/
theorem common_pairs_order_free (m m' : List (Str × Str)) (hp : m.Perm m')
    (hk : (m.map (·.1)).Nodup) : commonPairs (some m) = commonPairs (some m') :=
  sortedPairs_perm_eq hp hk

/-- within every gathered family the samples are in the order of the code's comparator (number of labels, then
    label values position by position, then timestamp), which is a total preorder (`sampleLe_trans`,
    `sampleLe_total`); the common labels are appended afterwards -/
theorem samples_sorted (pref : Option Str) (labels : Option (List (Str × Str))) (collected : List Family)
    (f : Family) (hf : f ∈ gatherFams pref labels collected) :
    ∃ ss : List Sample, ss.Pairwise (fun a b => sampleLe a b = true) ∧
      f.samples = ss.map fun s => { s with labels := s.labels ++ commonPairs labels } := by
  obtain ⟨g, _, rfl⟩ := List.mem_map.1 (gatherFams_eq .. ▸ hf)
  exact ⟨_, stableSortBy_pairwise sampleLe_trans sampleLe_total _, rfl⟩

/-- collectors registered under one name agree on help and type (guaranteed for library collectors
    of one kind by the registry's dimension check, C06 / C14) -/
def SameAttrs (c : List Family) : Prop :=
  ∀ f ∈ c, ∀ g ∈ c, f.samples ≠ [] → g.samples ≠ [] → f.name = g.name → f.help = g.help ∧ f.ty = g.ty

/-- under one name no two samples compare equal both ways unless they are the same sample (true when
    the label-value tuples under a name are pairwise distinct: C05 / C06) -/
def DistinctKeys (c : List Family) : Prop :=
  ∀ n, ∀ a ∈ samplesOf n c, ∀ b ∈ samplesOf n c, sampleLe a b = true → sampleLe b a = true → a = b

/-- for every permutation of what the collectors return (= every registration
    order and every iteration order of the collector hash map, i.e. every hash seed) `gather()` returns
    the same list of families: same names in the same order, same help and type, same samples in the
    same order. -/
theorem deterministic (pref : Option Str) (labels : Option (List (Str × Str))) (c c' : List Family)
    (hp : c.Perm c') (ha : SameAttrs c) (hd : DistinctKeys c) :
    gatherFams pref labels c = gatherFams pref labels c' := by
  rw [gatherFams_eq, gatherFams_eq]
  refine merged_map_perm _ hp fun g hg g' hg' hn => ?_
  -- the two families of one name: same help and type by `SameAttrs`, samples a permutation
  obtain ⟨f, hf, hfne, hfn, hfh, hft⟩ := merged_attrs c g hg
  obtain ⟨f', hf', hfne', hfn', hfh', hft'⟩ := merged_attrs c' g' hg'
  obtain ⟨hh, ht⟩ := ha f hf f' (hp.mem_iff.2 hf') hfne hfne' (by rw [hfn, hfn', hn])
  have hsort : stableSortBy sampleLe g.samples = stableSortBy sampleLe g'.samples := by
    rw [merged_samples c g hg, merged_samples c' g' hg', hn]
    exact stableSortBy_perm_eq sampleLe_trans sampleLe_total (samplesOf_perm g'.name hp)
      (fun a b ha hb => hd g'.name a ha b hb)
  simp only [finish, hn, hsort, ← hfh, ← hfh', hh, ← hft, ← hft', ht]

/-- the registry prefix is applied injectively: two names with the same prefixed form are equal -/
theorem applyPrefix_inj (pref : Option Str) {a b : Str} (h : applyPrefix pref a = applyPrefix pref b) : a = b := by
  cases pref with
  | none => exact h
  | some p => exact List.append_cancel_left h

/-- every family returned by `gather()` carries the declared help and
    type of a collector that actually reported under that name: there is a collected family `c` with
    at least one sample whose (prefixed) name is the family's name and whose help and type are the
    family's help and type. Nothing is invented and nothing comes from an empty family. -/
theorem family_help_and_type (pref : Option Str) (labels : Option (List (Str × Str))) (collected : List Family)
    (f : Family) (hf : f ∈ gatherFams pref labels collected) :
    ∃ c ∈ collected, c.samples ≠ [] ∧ f.name = applyPrefix pref c.name ∧ f.help = c.help ∧ f.ty = c.ty := by
  obtain ⟨g, hg, hn, hh, ht, _⟩ := gather_family_samples pref labels collected f hf
  obtain ⟨c, hc, hne, hcn, hch, hct⟩ := merged_attrs collected g hg
  exact ⟨c, hc, hne, by rw [hn, hcn], by rw [hh, hch], by rw [ht, hct]⟩

/-- with the declared help `h` and type `t` of a name `n` given explicitly: if every
    collected family with samples named `n` declares `(h, t)`, the gathered family named
    `applyPrefix pref n` carries `(h, t)` — in every permutation of the collected families -/
theorem family_help_type_of_name (pref : Option Str) (labels : Option (List (Str × Str)))
    (collected collected' : List Family) (hp : collected.Perm collected') (n : Str) (h : Str) (t : MType)
    (hdecl : ∀ c ∈ collected, c.samples ≠ [] → c.name = n → c.help = h ∧ c.ty = t)
    (f : Family) (hf : f ∈ gatherFams pref labels collected') (hn : f.name = applyPrefix pref n) :
    f.help = h ∧ f.ty = t := by
  obtain ⟨c0, hc0, hne0, hn0, hh0, ht0⟩ := family_help_and_type pref labels collected' f hf
  have hnm : c0.name = n := applyPrefix_inj pref (by rw [← hn0, hn])
  obtain ⟨hh, ht⟩ := hdecl c0 (hp.mem_iff.2 hc0) hne0 hnm
  exact ⟨by rw [hh0, hh], by rw [ht0, ht]⟩

/-- if the collected families with samples agree on help and type
    under each name (`SameAttrs`; for help this is what registration enforces: the help string is part
    of the dimension hash, C06 / C14), then the help and type of a gathered family are THE help and
    type of its name: they equal those of *every* collected family with samples of that name, and this
    for every permutation `collected'` of what the collectors return (every registration order, every
    hash seed). Without the agreement hypothesis the first collector in iteration order would win. -/
theorem family_help_type_unique (pref : Option Str) (labels : Option (List (Str × Str)))
    (collected collected' : List Family) (hp : collected.Perm collected') (ha : SameAttrs collected)
    (f : Family) (hf : f ∈ gatherFams pref labels collected') :
    ∀ c ∈ collected, c.samples ≠ [] → applyPrefix pref c.name = f.name → f.help = c.help ∧ f.ty = c.ty := by
  intro c hc hne hn
  exact family_help_type_of_name pref labels collected collected' hp c.name c.help c.ty
    (fun c0 hc0 hne0 hn0 => ha c0 hc0 c hc hne0 hne hn0) f hf hn.symm

/-- a name under which some collector reported a sample appears (once,
    `families_sorted_strict`) in the output, for every permutation -/
theorem family_present (pref : Option Str) (labels : Option (List (Str × Str)))
    (collected collected' : List Family) (hp : collected.Perm collected')
    (c : Family) (hc : c ∈ collected) (hne : c.samples ≠ []) :
    ∃ f ∈ gatherFams pref labels collected', f.name = applyPrefix pref c.name := by
  obtain ⟨g, hg, hgn⟩ := List.mem_map.1 ((merged_names_iff collected' c.name).2 ⟨c, hp.mem_iff.1 hc, hne, rfl⟩)
  exact ⟨finish pref labels g, List.mem_map.2 ⟨g, hg, rfl⟩, congrArg (applyPrefix pref) hgn⟩

def fA : Family := ⟨strOfString "m", strOfString "h", .counter, [⟨[⟨strOfString "k", strOfString "2"⟩], .counter 1, 0⟩]⟩
def fB : Family := ⟨strOfString "m", strOfString "h", .counter, [⟨[⟨strOfString "k", strOfString "1"⟩], .counter 2, 0⟩]⟩
def fC : Family := ⟨strOfString "a", strOfString "h", .gauge, [⟨[], .gauge 3, 0⟩]⟩

-- non-vacuity: two collectors under one name, one under another, given in two orders
example : gatherFams none none [fA, fB, fC] = gatherFams none none [fC, fB, fA] := by decide +kernel
example : ((gatherFams none none [fA, fB, fC]).map (·.name)) = [strOfString "a", strOfString "m"] := by decide +kernel
example : (gatherFams none none [fA, fB, fC]).map (fun f => (f.help, f.ty)) =
    [(strOfString "h", .gauge), (strOfString "h", .counter)] := by decide +kernel

def fB' : Family := { fB with help := strOfString "other" }

-- the agreement hypothesis of `family_help_type_unique` is needed: with two helps declared under one name, the
-- collector met first wins, so the help depends on the iteration order
example : (gatherFams none none [fA, fB']).map (·.help) = [strOfString "h"] ∧
    (gatherFams none none [fB', fA]).map (·.help) = [strOfString "other"] := by decide +kernel

/-- every entry of a legal sequential history returned what the specification returns on the registry
    reached by the entries before it -/
theorem specRunR_entry {colls : List Coll} {r0 r : Reg} {l : List RM.RLin}
    (h : C06.specRunR colls r0 l = some r) {i : Nat} {x : RM.RLin} (hx : l[i]? = some x) :
    ∃ ri, C06.specRunR colls r0 (l.take i) = some ri ∧ (RM.specApply colls ri x.op).2 = x.res := by
  induction l generalizing r0 i with
  | nil => simp at hx
  | cons y rest ih =>
    simp only [C06.specRunR] at h
    split at h
    · next hres =>
      cases i with
      | zero => cases hx; exact ⟨r0, rfl, hres⟩
      | succ i =>
        obtain ⟨ri, hri, hap⟩ := ih h hx
        exact ⟨ri, by rw [List.take_succ_cons, C06.specRunR, if_pos hres, hri], hap⟩
    · cases h

/-- `gather()` racing registrations and unregistrations (any number
    of threads, any interleaving of their lock operations the replay machine accepts): the result
    recorded for every gather that took effect - the digest a trace carries: the names of the gathered
    families, in order, each with its number of samples - is that digest of what the SEQUENTIAL
    `Reg.gather` returns on the registry obtained by executing, one at a time and in commit order, the
    calls committed before it. As far as the digest shows (which families, in which order, how many
    samples each), the theorems of this file about `Reg.gather` therefore hold for a concurrent gather:
    no collector let in through interleaved half-registrations can be missing from or doubled in it. -/
theorem concurrent_gather_explained {colls : List Coll} {prog : List (List String)} {s : RM.St}
    (h : C06.RReach colls prog s) {i : Nat} {x : RM.RLin} (hx : s.lin[i]? = some x)
    (hg : x.op = .gather) :
    ∃ ri, C06.specRunR colls {} (s.lin.take i) = some ri ∧
      x.res = "+".intercalate (ri.gather.map fun f => RM.hexOf f.name ++ ":" ++ toString f.samples.length) := by
  obtain ⟨ri, hri, hap⟩ := specRunR_entry (C06.registry_linearizable h).2 hx
  refine ⟨ri, hri, ?_⟩
  rw [hg] at hap
  exact hap.symm

end Prom.C07
