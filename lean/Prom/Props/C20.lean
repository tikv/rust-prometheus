import Prom.Model.Macros
import Prom.Gen.MacroArms
/-
C20 — Registration macros are faithful shorthands for the explicit calls.
`Gen.macroTable` is regenerated from src/macros.rs on every run; the theorems are re-checked against
what the regenerated table says. Arguments are placeholders, so the equalities hold for all argument values.
-/
namespace Prom.C20
open Prom.Macros

/-- every arm of every exported macro of the regenerated table accepts a
    trailing comma and, fully expanded (nested invocations resolved by arity / marker tokens), equals
    the explicit constructor call registered in the named or the default registry and mapped to the
    registered handle (`.map(|()| handle)`: `Err` iff the registration is refused). -/
theorem arms_expand_to_spec : allFaithful Gen.macroTable = true := by decide +kernel

/-- `labels!` inserts every given pair, in order, into a fresh map; trailing comma optional -/
theorem labels_macro_ok : labelsOk Gen.macroTable = true := by decide +kernel

/-- DESIGN §5 "arity_dispatch_total", the count: the regenerated table has 23 exported macros. (That every public
    arity of every arm of them has a specification is part of `arms_expand_to_spec`: `armFaithful` is false on an
    arity without one. The hidden helpers `__register_*` are not counted: how many the source uses is an
    implementation detail, they only have to expand, which `arms_expand_to_spec` checks through the public forms.) -/
theorem macro_count : (Gen.macroTable.filter (·.exported)).length = 23 := by
  decide +kernel

-- example of what the theorem says for one arm: the 5-argument form of
-- `register_histogram_vec_with_registry!` passes the buckets to the options and registers in the
-- given registry
example : meq 16 (expand Gen.macroTable 12 (.call "register_histogram_vec_with_registry" [v 0, v 1, v 2, v 3, v 4]))
    (.registerIn (v 4) (.construct (.ident "HistogramVec") [.setBuckets (.newHistOpts (v 0) (v 1)) (v 3), v 2])) = true := by
  decide +kernel

/-- on two variables `meq` is equality of the names: the comparison behind `arms_expand_to_spec` does not identify
    different placeholder arguments -/
theorem meq_var_sound (a b : String) (h : meq 1 (.var a) (.var b) = true) : a = b := by
  simpa [meq] using h

end Prom.C20
