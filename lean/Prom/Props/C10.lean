import Prom.Lemmas.VecRuns
/-
C10 — Concurrent use of a metric vector is linearizable.

Subject: the step machine `Conc.vStep` over the critical sections of the children lock (read lock /
unlock, write lock / unlock), child creation and updates through handles. Any list of accepted
items is a run: any number of threads, programs and interleavings. The machine touches the
vector's content only through `vEff`, i.e. by performing one operation of the sequential
specification `VSpec.apply` and recording it in the commit log.
-/
namespace Prom.C10
open Prom.Conc Prom.RT

/-- for every accepted run: the vector's content (label value ↦ child, child ↦
    value) is exactly what the sequential specification `VSpec.apply` yields when the committed
    operations are run one at a time in commit order, and the result recorded with every committed
    operation is what the specification returns at its place. Each operation commits at one step of its own call — the
    lookup of a hit under the read lock; the get-or-create under the write lock after a miss (where
    the key is looked up AGAIN); the remove / reset under the write lock (a remove may look the key up
    under the read lock first: an absent key commits there, a present one at the write lock, where it
    is looked up AGAIN - `remove_precheck_accepted`; a reset may check under the read lock first whether
    the map is empty: an empty map commits there, a non-empty one at the write lock, where whatever the
    map holds then is cleared - `reset_precheck_accepted`); a collect's key set at its read lock (the
    child values it then loads are NOT entries of the log: the machine accepts a load only if it returns
    the current value of a child of that key set, and records nothing); an update through a handle at its
    fetch_add, or - when the increment is written as a load + compare-exchange loop - at its SUCCESSFUL
    compare-exchange (the loads and the failed exchanges of the loop commit nothing:
    `child_inc_as_cas_loop_accepted`) — so the order is consistent with real time. -/
theorem vec_linearizable {prog : List (List String)} {s : VSt} (h : VReach prog s) :
    specRunV {} s.lin = some s.spec := by
  induction h with
  | init => simp [specRunV]
  | step _ hs ih => exact vTrans_linInv ih (vItem_trans hs)

/-- the machine changes the vector's content only by performing recorded operations of the
    specification, and the commit order is never revised -/
theorem only_recorded_effects {s s' : VSt} {it : Item} (h : vItem s it = .ok s') :
    VTrans s s' ∧ s.lin <+: s'.lin :=
  ⟨vItem_trans h, vReplay.lin_mono h⟩

/-- **no label values twice** — in every reachable state the keys of the vector are pairwise
    distinct (so a collection never shows the same label values twice) and every key maps to a child
    that exists -/
theorem keys_distinct {prog : List (List String)} {s : VSt} (h : VReach prog s) : SpecInv s.spec := by
  induction h with
  | init => exact ⟨by simp, by simp⟩
  | step _ hs ih =>
    cases vItem_trans hs with
    | frame hsp _ => rw [hsp]; exact ih
    | eff t i op hsp _ => rw [hsp]; exact apply_specInv _ op ih

/-- the states of accepted runs are the continuations (`VRun`) of the initial state -/
theorem vReach_iff_vRun {prog : List (List String)} {s : VSt} : VReach prog s ↔ VRun (vInit prog) s :=
  ⟨fun h => by induction h with | init => exact .init | step _ hs ih => exact .step ih hs,
   fun h => by induction h with | init => exact .init | step _ hs ih => exact .step ih hs⟩

/-- every entry of the commit log was appended by a step of its own
    call, between that call's call mark and its return mark: an accepted item that changes the log is
    an EVENT of a thread whose call is open (`pc ≠ none`: the call mark has been accepted, the return
    mark has not), it appends exactly one entry `x`, and `x` carries this thread and the index of that
    open call (which the step leaves open or complete, but does not close: `idx` unchanged). Call
    marks, return marks and the other events leave the log as it is. (The update through a handle
    reported as sub-call `<i>u` after call `i` returned is such an open call too; it runs under the
    thread's current index `i + 1`.) -/
theorem vec_commits_within_call {s s' : VSt} {it : Item} (h : vItem s it = .ok s') :
    s'.lin = s.lin ∨
    ∃ e th x, it = .ev e ∧ s.ths[e.tid]? = some th ∧ th.pc.isSome = true ∧
      s'.lin = s.lin ++ [x] ∧ x.tid = e.tid ∧ x.idx = th.idx ∧
      ∃ th', s'.ths[e.tid]? = some th' ∧ th'.idx = th.idx ∧ th'.ops = th.ops :=
  vReplay.commit_within_call h

/-- the invariant behind the real-time theorem: in every state of an
    accepted run every entry of the commit log belongs to an existing thread and to a call that this
    thread has at least reached: no entry is tagged with a call of the future -/
theorem vec_log_index_bound {prog : List (List String)} {s : VSt} (h : VReach prog s) :
    ∀ e ∈ s.lin, ∃ th, s.ths[e.tid]? = some th ∧ e.idx ≤ th.idx :=
  vReplay.run_bound rfl (vRun_iff_run.1 (vReach_iff_vRun.1 h))

/-- once a call `(t, i)` has returned (state `s`), no later step
    commits anything for it: in every continuation `s'`, all its log entries lie inside the log of
    `s` (which is a prefix of the log of `s'`) -/
theorem vec_returned_call_is_final {s s' : VSt} (h' : VRun s s') {t i : Nat} {th : Th VPc}
    (hth : s.ths[t]? = some th) (hret : i < th.idx) {p : Nat} {x : VLin}
    (hx : s'.lin[p]? = some x) (hxt : x.tid = t ∧ x.idx = i) : p < s.lin.length ∧ s.lin <+: s'.lin :=
  ⟨vReplay.run_returned_pos (vRun_iff_run.1 h') hth hret hx hxt, vReplay.run_lin_prefix (vRun_iff_run.1 h')⟩

/-- the commit order of the vector machine is consistent with real time.
    Take any state `s` of an accepted run and any continuation to `s'`. A call (`t`, `i`) that has
    RETURNED in `s` (`i <` the call index of thread `t`) and a call (`t'`, `i'`) that in `s` has not
    started - thread `t'` has not reached it yet (`idx < i'`), or, more generally, nothing has been
    committed for it yet (no entry of the log of `s` is tagged `(t', i')`): wherever entries of the
    two calls appear in the later commit log, EVERY entry of the first is before EVERY entry of the
    second (a call of the program commits at most once, but the update through a handle reported as
    sub-call `<i>u` is logged under index `i + 1`, which it shares with the thread's next call: one tag
    may carry several entries, and the statement is about all of them).

    The weaker reading of "not started", "`i' = th'.idx ∧ th'.pc = none ∧ th'.retv = none`" (thread `t'` is
    idle and `i'` is its next call), is NOT sufficient for this machine: the update through a
    handle is reported as a sub-call `<i>u` AFTER call `i` has returned, it commits under the thread's
    current index `i + 1`, and the thread is idle again afterwards with `idx = i + 1` - see
    `vec_idle_thread_may_have_committed` for an accepted run in which a call that returned later is
    therefore logged after an entry tagged with the idle thread's next call. -/
theorem vec_real_time_order {prog : List (List String)} {s s' : VSt}
    (h : VReach prog s) (h' : VRun s s')
    {t t' : Nat} {th th' : Th VPc} (hth : s.ths[t]? = some th) (hth' : s.ths[t']? = some th')
    {i i' : Nat} (hret : i < th.idx)
    (hnot : th'.idx < i' ∨ ∀ e ∈ s.lin, ¬ (e.tid = t' ∧ e.idx = i'))
    {p q : Nat} {x y : VLin} (hx : s'.lin[p]? = some x) (hy : s'.lin[q]? = some y)
    (hxt : x.tid = t ∧ x.idx = i) (hyt : y.tid = t' ∧ y.idx = i') : p < q := by
  have hno : ∀ e ∈ s.lin, ¬ (e.tid = t' ∧ e.idx = i') := by
    rcases hnot with hn | hn
    · exact vReplay.no_entry_of_view
        ((vReplay.run_bound_view rfl (vRun_iff_run.1 (vReach_iff_vRun.1 h))).no_entry_future hth' hn)
    · exact hn
  exact vReplay.run_real_time (vRun_iff_run.1 h') hth hret hno hx hy hxt hyt

/-- why "not started" cannot be "`i' = idx` of an idle
    thread" for this machine: `subcallTrace` is an accepted run of the programs `with:a` | `reset`
    after which call (1, 0) has RETURNED (`0 < idx` of thread 1), thread 0 is idle with call index 1
    (`pc = none`, `retv = none`: by that reading call (0, 1) "has not started"), and yet the commit log
    is `(0,0) getOrCreate, (0,1) inc, (1,0) reset`: the entry of the returned call (1, 0), at position
    2, comes AFTER the entry tagged (0, 1), at position 1 - the handle update of sub-call `0u`, made
    under thread 0's current index 1 before call (1, 0) began. With `s' = s` this refutes the
    real-time statement in that formulation; `vec_real_time_order` excludes it by asking that
    nothing be committed yet for (`t'`, `i'`). -/
theorem vec_idle_thread_may_have_committed :
    ∃ s, VReach [["with:a"], ["reset"]] s ∧ VRun s s ∧
      ∃ th th' x y, s.ths[1]? = some th ∧ s.ths[0]? = some th' ∧ 0 < th.idx ∧
        (1 = th'.idx ∧ th'.pc = none ∧ th'.retv = none) ∧
        s.lin[2]? = some x ∧ s.lin[1]? = some y ∧ (x.tid = 1 ∧ x.idx = 0) ∧ (y.tid = 0 ∧ y.idx = 1) ∧
        ¬ (2 < 1) := by
  have h : ∃ s, runItems vItem (vInit [["with:a"], ["reset"]]) subcallTrace 0 = .ok s ∧
      ∃ th th' x y, s.ths[1]? = some th ∧ s.ths[0]? = some th' ∧ 0 < th.idx ∧
        (1 = th'.idx ∧ th'.pc = none ∧ th'.retv = none) ∧
        s.lin[2]? = some x ∧ s.lin[1]? = some y ∧ (x.tid = 1 ∧ x.idx = 0) ∧ (y.tid = 0 ∧ y.idx = 1) := by
    -- thread 0's `with:a` is the common beginning `with_run6`
    rw [show runItems vItem (vInit [["with:a"], ["reset"]]) subcallTrace 0 = _ from
      runItems_of_take (tr := subcallTrace) 6 (with_run6 [] [{ ops := ["reset"] }]) 6]
    simp [runItems, subcallTrace, withS6, vItem, vStep, vIncAdd, bindChild, vEff, Conc.guard, openCall, closeCall,
      repr_0, ordGe_self, opName_reset, endsWith_0u, endsWith_0, VSpec.apply, -getElem?_pos, List.getElem?_cons_zero,
      List.getElem?_cons_succ]
  obtain ⟨s, hr, th, th', x, y, h1, h2, h3, h4, h5, h6, h7, h8⟩ := h
  exact ⟨s, runItems_vReach hr, .init, th, th', x, y, h1, h2, h3, h4, h5, h6, h7, h8, by omega⟩

/-- the machine accepts a `remove` that first looks the key up under the
    READ lock, and both outcomes of that lookup are reachable:
    (1) `rmAbsentTrace`: the key is absent; the call commits `.remove "a"` with result `.err` at its read
        lock, completes at the read unlock and returns "err" - the whole run contains no write lock; the
        program is finished (`allDone`), the lock is free, the log is that one entry;
    (2) `rmPresentTrace`: the key is present; after the read-locked section (the first 9 items) NOTHING
        has been committed for the remove (the log is the `with`'s get-or-create alone) and the thread
        expects the write lock (`rmNeedW`); the write-locked section then commits `.remove "a"` with
        result `.ok`, the call returns "ok", the key is gone;
    (3) `rmGapTrace`: as (2), but another thread's `reset` runs between the read-locked lookup and the
        write-locked remove: the remove commits AFTER the reset, with result `.err`, and returns "err".
    All three end states are `VReach`able, so `vec_linearizable`, `keys_distinct`, `vec_real_time_order`
    … apply to them. -/
theorem remove_precheck_accepted :
    (∃ s, runItems vItem (vInit [["rm:a"]]) rmAbsentTrace 0 = .ok s ∧ VReach [["rm:a"]] s ∧
      allDone s.ths = true ∧ s.lin = [⟨0, 0, .remove "a", .err⟩] ∧ s.spec.map = [] ∧
      s.lockW = none ∧ s.lockR = []) ∧
    (∃ s1 s, runItems vItem (vInit [["with:a", "rm:a"]]) (rmPresentTrace.take 9) 0 = .ok s1 ∧
      s1.lin = [⟨0, 0, .getOrCreate "a", .child 0⟩] ∧ s1.spec.map = [("a", 0)] ∧
      s1.ths.map (·.pc) = [some (.rmNeedW "rm:a")] ∧ s1.lockW = none ∧ s1.lockR = [] ∧
      runItems vItem (vInit [["with:a", "rm:a"]]) rmPresentTrace 0 = .ok s ∧ VReach [["with:a", "rm:a"]] s ∧
      allDone s.ths = true ∧
      s.lin = [⟨0, 0, .getOrCreate "a", .child 0⟩, ⟨0, 1, .remove "a", .ok⟩] ∧ s.spec.map = [] ∧
      s.lockW = none ∧ s.lockR = []) ∧
    (∃ s, runItems vItem (vInit [["with:a", "rm:a"], ["reset"]]) rmGapTrace 0 = .ok s ∧
      VReach [["with:a", "rm:a"], ["reset"]] s ∧ allDone s.ths = true ∧
      s.lin = [⟨0, 0, .getOrCreate "a", .child 0⟩, ⟨1, 0, .reset, .unit⟩, ⟨0, 1, .remove "a", .err⟩] ∧
      s.spec.map = [] ∧ s.lockW = none ∧ s.lockR = []) := by
  refine ⟨accepted runItems_vReach ?_, ?_, accepted runItems_vReach ?_⟩
  · simp [runItems, rmAbsentTrace, vInit, vItem, vStep, vEff, Conc.guard, openCall, closeCall, allDone, repr_0,
      opName_rm_a, opArg_rm_a, endsWith_0, VSpec.lookup, VSpec.apply, -getElem?_pos, List.getElem?_cons_zero]
  · -- the first 9 items are run once (`rm_run9`)
    have h : ∃ s, runItems vItem (rmS9 []) (rmPresentTrace.drop 9) 9 = .ok s ∧ allDone s.ths = true ∧
        s.lin = [⟨0, 0, .getOrCreate "a", .child 0⟩, ⟨0, 1, .remove "a", .ok⟩] ∧ s.spec.map = [] ∧
        s.lockW = none ∧ s.lockR = [] := by
      simp [runItems, rmPresentTrace, rmS9, vItem, vStep, vEff, Conc.guard, closeCall, allDone, repr_1, opName_rm_a,
        opArg_rm_a, endsWith_1, VSpec.lookup, VSpec.apply, -getElem?_pos, List.getElem?_cons_zero]
    obtain ⟨s, hr, h7⟩ := h
    have hr' : runItems vItem (vInit [["with:a", "rm:a"]]) rmPresentTrace 0 = .ok s :=
      (runItems_of_take 9 (rm_run9 []) 9).trans hr
    exact ⟨rmS9 [], s, rm_run9 [], rfl, rfl, rfl, rfl, rfl, hr', runItems_vReach hr', h7⟩
  · -- the same 9 items, with thread 1 standing by
    rw [show runItems vItem (vInit [["with:a", "rm:a"], ["reset"]]) rmGapTrace 0 = _ from
      runItems_of_take (tr := rmGapTrace) 9 (rm_run9 [{ ops := ["reset"] }]) 9]
    simp [runItems, rmGapTrace, rmS9, vItem, vStep, vEff, Conc.guard, openCall, closeCall, allDone,
      repr_0, repr_1, opName_rm_a, opArg_rm_a, opName_reset, endsWith_0, endsWith_1,
      VSpec.lookup, VSpec.apply, -getElem?_pos, List.getElem?_cons_zero, List.getElem?_cons_succ]

/-- whatever a `reset` does at a READ lock (the first event of
    the call is "R"), the vector's content is the same afterwards: either the map was empty and the
    committed `.reset` left it as it was (`reset_empty`), or nothing was committed. A read-locked
    section of `reset` never clears anything. -/
theorem reset_at_read_lock_keeps_content {s s' : VSt} {e : Ev} {th : Th VPc} {op : String}
    (hth : s.ths[e.tid]? = some th) (hpc : th.pc = some (.start op)) (hn : opName op = "reset")
    (hk : e.k = "R") (h : vStep s e = .ok s') : s'.spec = s.spec := by
  have hw : ("reset" == "with") = false := by decide +kernel
  have hc : ("reset" == "collect") = false := by decide +kernel
  have hr : ("reset" == "rm") = false := by decide +kernel
  revert s' h
  show OkAll _ _
  unfold vStep
  simp only [hth, hpc, hn, hk, hw, hc, hr, beq_self_eq_true, Bool.false_and, Bool.and_self, Bool.false_eq_true,
    if_false, if_true, okAll_guard, okAll_ite, okAll_ok]
  -- an empty map: the committed `.reset` changes nothing; a non-empty one: nothing is committed
  exact fun _ _ => ⟨fun hem => by simp only [vEff, reset_empty _ hem], fun _ => trivial⟩

/-- the machine accepts a `reset` that first checks under the READ lock
    whether the map is empty (besides the form that takes the write lock at once, as in
    `subcallTrace` / `rmGapTrace`), and both outcomes of that check are reachable:
    (1) `resetEmptyTrace`: the map is empty; the call commits `.reset` with result `.unit` at its read
        lock - by `reset_empty` this leaves the content as it is -, completes at the read unlock and
        returns ""; the whole run contains no write lock; the program is finished (`allDone`), the lock
        is free, the log is that one entry;
    (2) `resetNonEmptyTrace`: the map is not empty; after the read-locked section (the first 9 items)
        NOTHING has been committed for the reset (the log is the `with`'s get-or-create alone, the key
        is still there) and the thread expects the write lock (`rmNeedW`); the write-locked section
        then commits `.reset`, the call returns "", the map is empty;
    (3) `resetGapTrace`: as (2), but another thread's `with:b` creates a second child between the
        read-locked check and the write-locked section: the reset commits AFTER that get-or-create and
        clears whatever the map holds then - both keys;
    (4) `resetSkippedTrace` is REJECTED: a reset that returns after its read-locked check although the map
        was not empty has not completed its steps - the return mark (item 9) is refused with exactly
        this message.
    The end states of (1)-(3) are `VReach`able, so `vec_linearizable`, `keys_distinct`,
    `vec_real_time_order` … apply to them. -/
theorem reset_precheck_accepted :
    (∃ s, runItems vItem (vInit [["reset"]]) resetEmptyTrace 0 = .ok s ∧ VReach [["reset"]] s ∧
      allDone s.ths = true ∧ s.lin = [⟨0, 0, .reset, .unit⟩] ∧ s.spec.map = [] ∧
      s.lockW = none ∧ s.lockR = []) ∧
    (∃ s1 s, runItems vItem (vInit [["with:a", "reset"]]) (resetNonEmptyTrace.take 9) 0 = .ok s1 ∧
      s1.lin = [⟨0, 0, .getOrCreate "a", .child 0⟩] ∧ s1.spec.map = [("a", 0)] ∧
      s1.ths.map (·.pc) = [some (.rmNeedW "reset")] ∧ s1.lockW = none ∧ s1.lockR = [] ∧
      runItems vItem (vInit [["with:a", "reset"]]) resetNonEmptyTrace 0 = .ok s ∧ VReach [["with:a", "reset"]] s ∧
      allDone s.ths = true ∧
      s.lin = [⟨0, 0, .getOrCreate "a", .child 0⟩, ⟨0, 1, .reset, .unit⟩] ∧ s.spec.map = [] ∧
      s.lockW = none ∧ s.lockR = []) ∧
    (∃ s, runItems vItem (vInit [["with:a", "reset"], ["with:b"]]) resetGapTrace 0 = .ok s ∧
      VReach [["with:a", "reset"], ["with:b"]] s ∧ allDone s.ths = true ∧
      s.lin = [⟨0, 0, .getOrCreate "a", .child 0⟩, ⟨1, 0, .getOrCreate "b", .child 1⟩, ⟨0, 1, .reset, .unit⟩] ∧
      s.spec.map = [] ∧ s.lockW = none ∧ s.lockR = []) ∧
    runItems vItem (vInit [["with:a", "reset"]]) resetSkippedTrace 0 =
      .error "diverge@9: return before the call's steps are complete (op reset)" := by
  refine ⟨accepted runItems_vReach ?_, ?_, accepted runItems_vReach ?_, ?_⟩
  · simp [runItems, resetEmptyTrace, vInit, vItem, vStep, vEff, Conc.guard, openCall, closeCall, allDone, repr_0,
      opName_reset, endsWith_0, VSpec.apply, -getElem?_pos, List.getElem?_cons_zero]
  · -- the first 9 items are run once (`reset_run9`)
    have h : ∃ s, runItems vItem (resetS9 []) (resetNonEmptyTrace.drop 9) 9 = .ok s ∧ allDone s.ths = true ∧
        s.lin = [⟨0, 0, .getOrCreate "a", .child 0⟩, ⟨0, 1, .reset, .unit⟩] ∧ s.spec.map = [] ∧
        s.lockW = none ∧ s.lockR = [] := by
      simp [runItems, resetNonEmptyTrace, resetS9, vItem, vStep, vEff, Conc.guard, closeCall, allDone,
        repr_1, opName_reset, endsWith_1, VSpec.apply, -getElem?_pos, List.getElem?_cons_zero]
    obtain ⟨s, hr, h7⟩ := h
    have hr' : runItems vItem (vInit [["with:a", "reset"]]) resetNonEmptyTrace 0 = .ok s :=
      (runItems_of_take 9 (reset_run9 []) 9).trans hr
    exact ⟨resetS9 [], s, reset_run9 [], rfl, rfl, rfl, rfl, rfl, hr', runItems_vReach hr', h7⟩
  · -- the same 9 items, with thread 1 standing by
    rw [show runItems vItem (vInit [["with:a", "reset"], ["with:b"]]) resetGapTrace 0 = _ from
      runItems_of_take (tr := resetGapTrace) 9 (reset_run9 [{ ops := ["with:b"] }]) 9]
    simp [runItems, resetGapTrace, resetS9, vItem, vStep, vEff, setHandle, Conc.guard, openCall, closeCall, allDone,
      repr_0, repr_1, opName_with_b, opArg_with_b, opName_reset, endsWith_0, endsWith_1,
      VSpec.lookup, VSpec.apply, -getElem?_pos, List.getElem?_cons_zero, List.getElem?_cons_succ]
  · show runItems vItem { ths := [{ ops := ["with:a", "reset"] }] } (resetNonEmptyTrace.take 9 ++ [.ret 0 "1" ""]) 0 = _
    rw [runItems_append (reset_run9 []) _ 9]
    simp [runItems, resetS9, vItem, closeCall, endsWith_1, toString_str, repr_9, -getElem?_pos,
      List.getElem?_cons_zero, List.getElem?_cons_succ]

/-- what the machine accepts from a thread whose update of child `c` through a handle
    is open (`incChild c`: no step yet; `incCas c cur`: loaded `cur`; `incRetry c cur`: a failed exchange
    reported `cur`), and what each accepted event does:
    * a `fetch_add` ("A") is accepted only before any other step of the call, has operand 1 and returns the
      child's current value; it commits `.inc c` (through `vEff`) and completes the call;
    * a load ("L") is accepted before any step or after a failed exchange, returns the child's current value
      `v`, commits NOTHING (content and log unchanged) and leaves the thread at `incCas c v`;
    * a compare-exchange ("C") is accepted after a load or a failed exchange, expects the value `cur` loaded /
      reported and installs `cur + 1`; if it succeeds, the child's CURRENT value is `cur` (= the value found) and it
      commits `.inc c` (through `vEff`) and completes the call - no update is lost; if it fails, it reports the
      child's current value `v`, commits NOTHING and leaves the thread at `incRetry c v`.
    No other event is accepted, every ordering is at least Relaxed, and all three identify `e.loc` as the
    cell of child `c` by the same `bindChild`. -/
theorem child_inc_step_cases {s s' : VSt} {e : Ev} {th : Th VPc} {pc : VPc} {c : Nat}
    (hth : s.ths[e.tid]? = some th) (hpc : th.pc = some pc)
    (hc : pc = .incChild c ∨ ∃ cur, pc = .incCas c cur ∨ pc = .incRetry c cur)
    (h : vStep s e = .ok s') :
    ordGe e.ord "Relaxed" = true ∧ (∃ s1, bindChild s e.loc c = .ok s1) ∧
    ((e.k = "A" ∧ pc = .incChild c ∧ e.a = 1 ∧ e.res = s.spec.vals.getD c 0 ∧
        s'.spec = (s.spec.apply (.inc c)).1 ∧ s'.lin = s.lin ++ [⟨e.tid, th.idx, .inc c, .unit⟩] ∧
        s'.ths = s.ths.set e.tid { th with pc := none, retv := some "" }) ∨
     (e.k = "L" ∧ (pc = .incChild c ∨ ∃ cur, pc = .incRetry c cur) ∧ e.res = s.spec.vals.getD c 0 ∧
        s'.spec = s.spec ∧ s'.lin = s.lin ∧
        s'.ths = s.ths.set e.tid { th with pc := some (.incCas c e.res) }) ∨
     (e.k = "C" ∧ ∃ cur, (pc = .incCas c cur ∨ pc = .incRetry c cur) ∧ e.a = cur ∧ e.b = cur + 1 ∧
        ((e.ok = true ∧ s.spec.vals.getD c 0 = cur ∧ e.res = cur ∧
            s'.spec = (s.spec.apply (.inc c)).1 ∧ s'.lin = s.lin ++ [⟨e.tid, th.idx, .inc c, .unit⟩] ∧
            s'.ths = s.ths.set e.tid { th with pc := none, retv := some "" }) ∨
         (e.ok = false ∧ e.res = s.spec.vals.getD c 0 ∧ s'.spec = s.spec ∧ s'.lin = s.lin ∧
            s'.ths = s.ths.set e.tid { th with pc := some (.incRetry c e.res) })))) := by
  -- the program counter is made a constructor before `vStep` is unfolded: `simp` then goes into its arm only
  rcases hc with rfl | ⟨cur, rfl | rfl⟩ <;> simp only [vStep, hth, hpc] at h
  · split at h
    · obtain ⟨h1, h2, h3, h4, h5, h6, h7⟩ := vIncLoad_spec h
      exact ⟨h2, h4, .inr (.inl ⟨h1, .inl rfl, h3, h5, h6, h7⟩)⟩
    · obtain ⟨h1, h2, h3, h4, h5, h6, h7, h8⟩ := vIncAdd_spec h
      exact ⟨h2, h5, .inl ⟨h1, rfl, h3, h4, h6, h7, h8⟩⟩
  · obtain ⟨h1, h2, h3, h4, h5, h6⟩ := vIncCas_spec h
    exact ⟨h2, h5, .inr (.inr ⟨h1, cur, .inl rfl, h3, h4, h6⟩)⟩
  · split at h
    · obtain ⟨h1, h2, h3, h4, h5, h6, h7⟩ := vIncLoad_spec h
      exact ⟨h2, h4, .inr (.inl ⟨h1, .inr ⟨cur, rfl⟩, h3, h5, h6, h7⟩)⟩
    · obtain ⟨h1, h2, h3, h4, h5, h6⟩ := vIncCas_spec h
      exact ⟨h2, h5, .inr (.inr ⟨h1, cur, .inr rfl, h3, h4, h6⟩)⟩

/-- the machine accepts an update through a handle written as
    `load` + `compare_exchange(cur, cur + 1)` (besides the single `fetch_add`, which is accepted too:
    `subcallTrace` in `vec_idle_thread_may_have_committed`):
    (1) `casIncTrace`, uncontended: after the load (the first 8 items) NOTHING has been committed for the
        update (the log is the `with`'s get-or-create alone, the child still holds 0), the thread expects the
        exchange from the value it loaded (`incCas 0 0`) and the location `c0` has been identified as child 0's
        cell; the successful exchange 0 -> 1 then commits `.inc 0`, the sub-call returns, the child holds 1;
    (2) `casIncRetryTrace`, two threads increment the same child: both load 0, thread 1's exchange 0 -> 1
        succeeds; thread 0's exchange 0 -> 1 FAILS and reports 1 - after that failure (`casIncRacePrefix`) only
        thread 1's increment is in the log, the child holds 1 and thread 0 is at `incRetry 0 1` -; thread 0
        goes on at once with the reported value, its exchange 1 -> 2 succeeds. Both increments are committed,
        thread 1's first, each exactly once, and the child holds 2 in the specification;
    (3) `casIncReloadTrace`: as (2), but thread 0 loads again (1; with stronger orderings than needed: SeqCst
        load, AcqRel exchange) before the exchange 1 -> 2: same log, same content;
    (4) REJECTED, each at the offending event (item 16 resp. 8) with the message that says why:
        `casIncStaleTrace` - thread 0's exchange 0 -> 1 claims success although the child holds 1 by then (a lost
        update); `casIncWrongNewTrace` - the exchange installs 2 instead of 0 + 1; `casIncWrongReportTrace` - the
        failed exchange reports 0 although the child holds 1.
    The end states of (1)-(3) are `VReach`able, so `vec_linearizable`, `keys_distinct`,
    `vec_real_time_order` … apply to them. -/
theorem child_inc_as_cas_loop_accepted :
    (∃ s1 s, runItems vItem (vInit [["with:a"]]) (casIncTrace.take 8) 0 = .ok s1 ∧
      s1.lin = [⟨0, 0, .getOrCreate "a", .child 0⟩] ∧ s1.spec.vals = [0] ∧
      s1.ths.map (·.pc) = [some (.incCas 0 0)] ∧ s1.binding = [("c0", 0)] ∧
      runItems vItem (vInit [["with:a"]]) casIncTrace 0 = .ok s ∧ VReach [["with:a"]] s ∧
      allDone s.ths = true ∧
      s.lin = [⟨0, 0, .getOrCreate "a", .child 0⟩, ⟨0, 1, .inc 0, .unit⟩] ∧
      s.spec.map = [("a", 0)] ∧ s.spec.vals = [1] ∧ s.binding = [("c0", 0)]) ∧
    (∃ s1 s, runItems vItem (vInit [["with:a"], ["with:a"]]) casIncRacePrefix 0 = .ok s1 ∧
      s1.lin = [⟨0, 0, .getOrCreate "a", .child 0⟩, ⟨1, 0, .getOrCreate "a", .child 0⟩, ⟨1, 1, .inc 0, .unit⟩] ∧
      s1.spec.vals = [1] ∧ s1.ths.map (·.pc) = [some (.incRetry 0 1), none] ∧
      runItems vItem (vInit [["with:a"], ["with:a"]]) casIncRetryTrace 0 = .ok s ∧
      VReach [["with:a"], ["with:a"]] s ∧ allDone s.ths = true ∧
      s.lin = [⟨0, 0, .getOrCreate "a", .child 0⟩, ⟨1, 0, .getOrCreate "a", .child 0⟩,
               ⟨1, 1, .inc 0, .unit⟩, ⟨0, 1, .inc 0, .unit⟩] ∧
      s.spec.map = [("a", 0)] ∧ s.spec.vals = [2] ∧ s.binding = [("c0", 0)]) ∧
    (∃ s, runItems vItem (vInit [["with:a"], ["with:a"]]) casIncReloadTrace 0 = .ok s ∧
      VReach [["with:a"], ["with:a"]] s ∧ allDone s.ths = true ∧
      s.lin = [⟨0, 0, .getOrCreate "a", .child 0⟩, ⟨1, 0, .getOrCreate "a", .child 0⟩,
               ⟨1, 1, .inc 0, .unit⟩, ⟨0, 1, .inc 0, .unit⟩] ∧
      s.spec.map = [("a", 0)] ∧ s.spec.vals = [2] ∧ s.binding = [("c0", 0)]) ∧
    (runItems vItem (vInit [["with:a"], ["with:a"]]) casIncStaleTrace 0 =
        .error "diverge@16: inc: cas succeeded although the child no longer holds the expected value" ∧
     runItems vItem (vInit [["with:a"]]) casIncWrongNewTrace 0 =
        .error "diverge@8: inc: expected cas Relaxed 0 -> 1" ∧
     runItems vItem (vInit [["with:a"], ["with:a"]]) casIncWrongReportTrace 0 =
        .error "diverge@16: inc: failed cas reports a wrong current value") := by
  -- the common beginnings are run once (`casInc_run8`, `casRace_run16`); the failed exchange of thread 0
  -- ends the common prefix of the two-thread runs
  have h17 : ∃ s1, runItems vItem (vInit [["with:a"], ["with:a"]]) casIncRacePrefix 0 = .ok s1 ∧
      s1.lin = [⟨0, 0, .getOrCreate "a", .child 0⟩, ⟨1, 0, .getOrCreate "a", .child 0⟩, ⟨1, 1, .inc 0, .unit⟩] ∧
      s1.spec.vals = [1] ∧ s1.ths.map (·.pc) = [some (.incRetry 0 1), none] ∧
      s1 = { casRaceS16 with ths := casRaceS16.ths.set 0 { ops := ["with:a"], idx := 1, pc := some (.incRetry 0 1) } } := by
    rw [runItems_of_take 16 casRace_run16 16]
    simp [runItems, casIncRacePrefix, casRaceS16, vItem, vStep, vIncCas, bindChild, Conc.guard, ordGe_self,
      -getElem?_pos, List.getElem?_cons_zero]
  obtain ⟨s17, hr17, hl17, hv17, hp17, hs17⟩ := h17
  refine ⟨?_, ?_, ?_, ?_, ?_, ?_⟩
  · have h : ∃ s, runItems vItem casIncS8 (casIncTrace.drop 8) 8 = .ok s ∧ allDone s.ths = true ∧
        s.lin = [⟨0, 0, .getOrCreate "a", .child 0⟩, ⟨0, 1, .inc 0, .unit⟩] ∧
        s.spec.map = [("a", 0)] ∧ s.spec.vals = [1] ∧ s.binding = [("c0", 0)] := by
      simp [runItems, casIncTrace, casIncS8, vItem, vStep, vIncCas, bindChild, vEff, Conc.guard, allDone,
        ordGe_self, endsWith_0u, VSpec.apply, -getElem?_pos, List.getElem?_cons_zero]
    obtain ⟨s, hr, h6⟩ := h
    have hr' : runItems vItem (vInit [["with:a"]]) casIncTrace 0 = .ok s := (runItems_of_take 8 casInc_run8 8).trans hr
    exact ⟨casIncS8, s, casInc_run8, rfl, rfl, rfl, rfl, hr', runItems_vReach hr', h6⟩
  · have h : ∃ s, runItems vItem s17 (casIncRetryTrace.drop 17) 17 = .ok s ∧ allDone s.ths = true ∧
        s.lin = [⟨0, 0, .getOrCreate "a", .child 0⟩, ⟨1, 0, .getOrCreate "a", .child 0⟩,
                 ⟨1, 1, .inc 0, .unit⟩, ⟨0, 1, .inc 0, .unit⟩] ∧
        s.spec.map = [("a", 0)] ∧ s.spec.vals = [2] ∧ s.binding = [("c0", 0)] := by
      subst hs17
      simp [runItems, casIncRetryTrace, casIncRacePrefix, casRaceS16, vItem, vStep, vIncCas, bindChild, vEff,
        Conc.guard, allDone, ordGe_self, endsWith_0u, VSpec.apply, -getElem?_pos, List.getElem?_cons_zero]
    obtain ⟨s, hr, h6⟩ := h
    have hr' : runItems vItem (vInit [["with:a"], ["with:a"]]) casIncRetryTrace 0 = .ok s :=
      (runItems_append hr17 _ 17).trans hr
    exact ⟨s17, s, hr17, hl17, hv17, hp17, hr', runItems_vReach hr', h6⟩
  · have h : ∃ s, runItems vItem s17 (casIncReloadTrace.drop 17) 17 = .ok s ∧ allDone s.ths = true ∧
        s.lin = [⟨0, 0, .getOrCreate "a", .child 0⟩, ⟨1, 0, .getOrCreate "a", .child 0⟩,
                 ⟨1, 1, .inc 0, .unit⟩, ⟨0, 1, .inc 0, .unit⟩] ∧
        s.spec.map = [("a", 0)] ∧ s.spec.vals = [2] ∧ s.binding = [("c0", 0)] := by
      subst hs17
      simp [runItems, casIncReloadTrace, casIncRacePrefix, casRaceS16, vItem, vStep, vIncLoad, vIncCas, bindChild,
        vEff, Conc.guard, allDone, ordGe_relaxed, endsWith_0u, VSpec.apply, -getElem?_pos, List.getElem?_cons_zero]
    obtain ⟨s, hr, h6⟩ := h
    have hr' : runItems vItem (vInit [["with:a"], ["with:a"]]) casIncReloadTrace 0 = .ok s :=
      (runItems_append hr17 _ 17).trans hr
    exact ⟨s, hr', runItems_vReach hr', h6⟩
  · rw [casIncStaleTrace, runItems_append casRace_run16 _ 16]
    simp [runItems, casRaceS16, vItem, vStep, vIncCas, bindChild, Conc.guard, ordGe_self, toString_str, repr_16,
      -getElem?_pos, List.getElem?_cons_zero]
  · rw [casIncWrongNewTrace, runItems_append casInc_run8 _ 8]
    simp [runItems, casIncS8, vItem, vStep, vIncCas, Conc.guard, ordGe_self, toString_str, repr_8, hexStr_zero,
      hexStr_one, -getElem?_pos, List.getElem?_cons_zero]
  · rw [casIncWrongReportTrace, runItems_append casRace_run16 _ 16]
    simp [runItems, casRaceS16, vItem, vStep, vIncCas, bindChild, Conc.guard, ordGe_self, toString_str, repr_16,
      -getElem?_pos, List.getElem?_cons_zero]

/-- simultaneous first requests: whoever commits second finds the first one's child — two
    get-or-create operations for equal label values with nothing in between return the same child,
    so no update is lost -/
theorem same_values_same_child (s : VSpec) (k : String) :
    ((s.apply (.getOrCreate k)).1.apply (.getOrCreate k)).2 = (s.apply (.getOrCreate k)).2 ∧
    ((s.apply (.getOrCreate k)).1.apply (.getOrCreate k)).1 = (s.apply (.getOrCreate k)).1 := by
  cases hl : s.lookup k with
  | some c => simp only [apply_getOrCreate_hit hl, and_self]
  | none =>
    -- after the miss the key is found, at the appended position
    have : ({ map := s.map ++ [(k, s.vals.length)], vals := s.vals ++ [0] } : VSpec).lookup k = some s.vals.length :=
      (alook_append s.map _ k).trans (by rw [show alook s.map k = none from hl, alook_cons]; simp)
    simp only [apply_getOrCreate_miss hl, apply_getOrCreate_hit this, and_self]

/-- a removed child no longer appears in collections -/
theorem removed_is_absent (s : VSpec) (k : String) (hi : SpecInv s) :
    ∀ p ∈ ((s.apply (.remove k)).1.apply .keys).1.map, p.1 ≠ k := by
  intro p hp
  cases hl : s.lookup k with
  | some c =>
    rw [apply_remove_hit hl] at hp
    simpa using (List.mem_filter.1 hp).2
  | none =>
    rw [apply_remove_miss hl] at hp
    exact alook_eq_none.1 hl p hp

/-- handles to a removed child stay usable: an update through a handle touches only that child's value,
    never the map -/
theorem handle_update_touches_only_child (s : VSpec) (c : Nat) :
    (s.apply (.inc c)).1.map = s.map ∧ (s.apply (.inc c)).1.vals = s.vals.set c (s.vals.getD c 0 + 1) :=
  ⟨rfl, rfl⟩

/-- a child requested again after removal is a fresh one and starts from zero -/
theorem recreated_starts_from_zero (s : VSpec) (k : String) (hi : SpecInv s) :
    let s1 := (s.apply (.remove k)).1
    (s1.apply (.getOrCreate k)).2 = .child s1.vals.length ∧
    ((s1.apply (.getOrCreate k)).1.apply (.read s1.vals.length)).2 = .val 0 := by
  intro s1
  have hnone : s1.lookup k = none := by
    cases hl : s1.lookup k with
    | none => rfl
    | some c => exact absurd rfl (removed_is_absent s k hi (k, c) (alook_mem hl))
  rw [apply_getOrCreate_miss hnone]
  exact ⟨rfl, by simp [VSpec.apply]⟩

/-- get-or-create without the second lookup under the write lock: "insert whatever the read section saw" -/
def blindInsert (s : VSpec) (k : String) : VSpec := { map := s.map ++ [(k, s.vals.length)], vals := s.vals ++ [0] }

/-- without the second lookup under the write lock the property fails: `blindInsert`
    applied twice for one key (two threads that both missed under the read lock) leaves the key twice in the map -/
theorem recheck_needed : ¬ SpecInv (blindInsert (blindInsert {} "a") "a") := by
  intro h
  have := h.1
  simp [blindInsert] at this

/-- non-vacuity: a two-thread program's initial state is reachable -/
example : VReach [["with:a"], ["with:a"]] { ths := [["with:a"], ["with:a"]].map fun ops => { ops := ops } } := .init

end Prom.C10
