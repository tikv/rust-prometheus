import Prom.Lemmas.Vec
import Prom.Lemmas.Sort
import Prom.Lemmas.SepEnc
/-
C05 — A metric vector keeps exactly one child per distinct label-value tuple.

The code keys children by the 64-bit FNV-1a hash of the separator-terminated values. The
theorems separate the two ingredients: the *encoding* fed to the hash is injective on UTF-8
tuples (proved, `enc_injective`), and the hash itself is not injective (`C05_full_false`, a
concrete collision — known finding K1). `C05_partial` is the property under the explicit
hypothesis that the hash does not collide on the two tuples.
-/
namespace Prom.C05

/-- tuples of UTF-8 strings feed different bytes to the hasher unless they are
    equal position by position (in particular tuples that differ only in where one value ends
    and the next begins, and tuples with empty values). -/
theorem enc_injective (vs ws : List Str) (hv : ∀ x ∈ vs, NoFF x) (hw : ∀ x ∈ ws, NoFF x) :
    vecEnc vs = vecEnc ws ↔ vs = ws :=
  sepEnc_inj_iff sep vs ws hv hw

/-- two successive get-or-create requests return the same child exactly
    when their keys are equal. -/
theorem same_child_iff_key {v v1 v2 : MVec} (hi : VecInv v) {k k' : UInt64} {vals vals' : List Str}
    {a b : Nat} (h1 : getOrCreate v k vals = (v1, .ok a)) (h2 : getOrCreate v1 k' vals' = (v2, .ok b)) :
    a = b ↔ k = k' := by
  -- both bindings are in the final key map, whose keys and ids are pairwise distinct
  have hi2 := getOrCreate_inv (getOrCreate_inv hi h1) h2
  have ha := (getOrCreate_binds h2).2 _ (getOrCreate_binds h1).1
  have hb := (getOrCreate_binds h2).1
  constructor
  · intro e; exact (Prod.mk.inj (eq_of_nodup_map (·.2) hi2.ids ha hb e)).1
  · intro e; exact (Prod.mk.inj (eq_of_nodup_map (·.1) hi2.keys ha hb e)).2

/-- the hash does not distinguish the two tuples although their encodings differ -/
def Collide (vs ws : List Str) : Prop := vecKey vs = vecKey ws ∧ vecEnc vs ≠ vecEnc ws

/-- for UTF-8 tuples on which FNV-1a does not collide: equal keys (hence, by
    `same_child_iff_key`, the same child) exactly when the tuples are equal position by position. -/
theorem C05_partial (vs ws : List Str) (hv : ∀ x ∈ vs, NoFF x) (hw : ∀ x ∈ ws, NoFF x)
    (hc : ¬ Collide vs ws) : vecKey vs = vecKey ws ↔ vs = ws := by
  constructor
  · intro hk
    by_cases he : vecEnc vs = vecEnc ws
    · exact (enc_injective vs ws hv hw).1 he
    · exact absurd ⟨hk, he⟩ hc
  · intro e; rw [e]

/-- the statement of `C05_partial` without the no-collision hypothesis is false of any 64-bit
    key: these two distinct one-element tuples get the same key (known finding K1; replayed on
    the real code by the `vec` corpus). -/
theorem C05_full_false :
    vecKey [strOfString "77kepQFQ8Kl"] = vecKey [strOfString "!0IC=VloaY"] ∧
    [strOfString "77kepQFQ8Kl"] ≠ [strOfString "!0IC=VloaY"] := by
  decide +kernel

/-- DESIGN §5 "wrong_shape_creates_nothing", values: a request with the wrong number of values is an error
    and the vector is unchanged -/
theorem wrong_cardinality_creates_nothing (v : MVec) (vals : List Str) (h : vals.length ≠ v.names.length) :
    withLabelValues v vals = (v, .error (.card v.names.length vals.length)) :=
  withLabelValues_err v vals h

/-- DESIGN §5 "wrong_shape_creates_nothing", map form: a map request with the wrong number of entries or a
    missing name is an error and the vector is unchanged -/
theorem wrong_map_creates_nothing (v : MVec) (m : List (Str × Str))
    (h : m.length ≠ v.names.length ∨ labelValuesOfMap v.names m = none) :
    ∃ e, withMap v m = (v, .error e) := by
  unfold withMap hashLabels
  by_cases hl : m.length = v.names.length
  · rcases h with h | h
    · exact absurd hl h
    · simp [hl, h]
  · simp [hl]

/-- DESIGN §5 "wrong_shape_creates_nothing", removal: a removal with the wrong number of values is an error
    and the vector is unchanged -/
theorem wrong_remove_changes_nothing (v : MVec) (vals : List Str) (h : vals.length ≠ v.names.length) :
    removeLabelValues v vals = (v, .error (.card v.names.length vals.length)) :=
  removeLabelValues_err v vals h

/-- DESIGN §5 "child_labels": a newly created child starts from zero and carries `childLabels` -/
theorem new_child_zero_and_labelled {v v' : MVec} {k : UInt64} {vals : List Str} {id : Nat}
    (hn : lookupKey v k = none) (h : getOrCreate v k vals = (v', .ok id)) :
    v'.store[id]? = some ⟨childLabels v vals, 0⟩ := by
  rcases getOrCreate_cases v k vals with ⟨_, hl, _⟩ | ⟨_, _, e⟩ | ⟨_, _, e⟩
  · rw [hn] at hl; cases hl
  · rw [e] at h; cases h
  · rw [e] at h; cases h; simp

/-- DESIGN §5 "child_labels": `childLabels` are exactly the requested values under the declared names
    together with the const labels -/
theorem child_labels_perm (v : MVec) (vals : List Str) (hne : v.names ≠ []) :
    (childLabels v vals).Perm ((v.names.zip vals).map (fun p => ⟨p.1, p.2⟩) ++ v.consts) := by
  rw [childLabels_of_ne v vals hne]
  exact stableSortBy_perm _ _

/-- `lpLe`, the order `childLabels` is sorted by (label pairs by name, `strLe`), is transitive -/
theorem lpLe_trans (a b c : LabelPair) (h1 : lpLe a b = true) (h2 : lpLe b c = true) : lpLe a c = true :=
  strLe_trans _ _ _ h1 h2

theorem lpLe_total (a b : LabelPair) : lpLe a b = true ∨ lpLe b a = true := strLe_total _ _

/-- DESIGN §5 "child_labels": `childLabels` are sorted by label name -/
theorem child_labels_sorted (v : MVec) (vals : List Str) (hne : v.names ≠ []) :
    (childLabels v vals).Pairwise (fun a b => strLe a.name b.name = true) := by
  rw [childLabels_of_ne v vals hne]
  exact stableSortBy_pairwise lpLe_trans lpLe_total _

/-- the map form only reads the map through lookups of the *declared*
    names: two maps that agree on every declared name resolve to the same values and key. -/
theorem map_form_order_free (names : List Str) (m m' : List (Str × Str))
    (h : ∀ n ∈ names, mapGet m n = mapGet m' n) :
    labelValuesOfMap names m = labelValuesOfMap names m' :=
  mapM_option_congr h

def okIs (r : Except VErr Nat) (n : Nat) : Bool := match r with | .ok m => m == n | .error _ => false
def v0 : MVec := { names := [strOfString "l1", strOfString "l2"], consts := [], buildFails := false, children := [], store := [] }

-- non-vacuity: a reachable two-label vector in which the split-shifted tuples are two children
example :
    okIs (withLabelValues v0 [strOfString "ab", strOfString "c"]).2 0 = true ∧
    okIs (withLabelValues (withLabelValues v0 [strOfString "ab", strOfString "c"]).1 [strOfString "a", strOfString "bc"]).2 1 = true := by
  decide +kernel

end Prom.C05
