import Prom.Lemmas.CharsetsGen
import Prom.Lemmas.GatheredNames
import Prom.Props.C07
/-
C09 — Only well-formed, pairwise distinct names reach an exposed sample.
Names are checked on UTF-8 bytes (`isValidMetricName`, `isValidLabelName` of `Model/Desc.lean`; lemmas about them in
`Lemmas/Ident.lean`); the character classes translated from src/desc.rs are tied to that byte-level model in
`Lemmas/CharsetsGen.lean`.
-/
namespace Prom.C09

/-- a fully-qualified name is accepted exactly when it matches `[a-zA-Z_:][a-zA-Z0-9_:]*` -/
theorem metric_name_regex (s : Str) :
    isValidMetricName s = true ↔ ∃ c r, s = c :: r ∧ MetricStartByte c ∧ ∀ x ∈ r, MetricRestByte x := by
  simp only [isValidMetricName, isValidIdent_iff, metricStart_iff, MetricRestByte]

/-- a label name is accepted exactly when it matches `[a-zA-Z_][a-zA-Z0-9_]*` -/
theorem label_name_regex (s : Str) :
    isValidLabelName s = true ↔ ∃ c r, s = c :: r ∧ LabelStartByte c ∧ ∀ x ∈ r, LabelRestByte x := by
  simp only [isValidLabelName, isValidIdent_iff, labelStart_iff, LabelRestByte]

/-- ASCII only: every byte of an accepted name is below 0x80 -/
theorem valid_name_ascii {s : Str} (h : isValidMetricName s = true) : ∀ b ∈ s, b < 0x80 := fun b hb =>
  CharsetsGen.metricRest_asciiOnly b ((validIdent_bytes h).2 b hb)

/-- a name containing any non-ASCII letter or digit (`é`, `ß`, `٣`, `𝟗`, full-width `Ａ` …) is refused: every byte of
    an accepted name is below 0x80, and in a UTF-8 string such a byte is exactly one ASCII *character* -/
theorem non_ascii_char_refused (cs : List Char) (c : Char) (hc : c ∈ cs) (hna : 0x80 ≤ c.val.toNat) :
    isValidMetricName (cs.flatMap String.utf8EncodeChar) = false := by
  refine Bool.eq_false_iff.2 fun hv => ?_
  have hall := List.all_eq_true.2 (validIdent_bytes hv).2
  rw [CharsetsGen.all_enc CharsetsGen.metricRest_asciiOnly] at hall
  exact Nat.not_lt.2 hna (CharsetsGen.lift_iff.1 (List.all_eq_true.1 hall c hc)).1

/-! ### the character classes translated from the source agree with the model

`Prom/Gen/Charsets.lean` is written by `translate/charsets.py` from `src/desc.rs`: every
`fn _(c: char) -> bool`, the shape of `is_valid_ident` and the predicate each of
`is_valid_metric_name` / `is_valid_label_name` passes to it, as definitions over `Char` (Unicode scalar
values). The theorems below tie that output to the hand-written byte-level model used above.

`is_valid_ident` may scan `input.chars()` or `input.bytes().map(char::from)`; the translator records which in
`Gen.identScansBytes`. The per-string theorems are stated over `CharsetsGen.genIdentOkSrc`, what the source computes
either way, and are proved for both values of the flag. -/

/-- `genIdentOkSrc` with `CharsetsGen.bytesAsChars` spelled out, so that the theorems stated over it can be read
    without the lemma file -/
theorem genIdentOkSrc_def (first rest : Char → Bool) (cs : List Char) :
    CharsetsGen.genIdentOkSrc first rest cs =
      if Gen.identScansBytes then
        Gen.genIdentOk first rest ((cs.flatMap String.utf8EncodeChar).map fun b => Char.ofNat b.toNat)
      else Gen.genIdentOk first rest cs := rfl

/-- the translator recognised every construct it met (an unknown method such as `c.is_alphabetic()`, or another
    shape of `is_valid_ident`, makes this `false`) -/
theorem generated_charsets_known : Gen.charsetsKnown = true := rfl

/-- the translated first-character class of label names holds of a character exactly when the
    character is ASCII and its byte is in the model's `labelStart` (`[a-zA-Z_]`) -/
theorem generated_label_first_iff (c : Char) :
    Gen.genLabelFirstOk c = true ↔ c.toNat < 128 ∧ labelStart (UInt8.ofNat c.toNat) = true :=
  CharsetsGen.label_first_eq ▸ CharsetsGen.lift_iff

/-- the translated first-character class of metric names holds of a character exactly when the character is ASCII
    and its byte is in the model's `metricStart` (`[a-zA-Z_:]`) -/
theorem generated_metric_first_iff (c : Char) :
    Gen.genMetricFirstOk c = true ↔ c.toNat < 128 ∧ metricStart (UInt8.ofNat c.toNat) = true :=
  CharsetsGen.metric_first_eq ▸ CharsetsGen.lift_iff

/-- the translated class of the later characters of label names holds of a character exactly when the character is
    ASCII and its byte is in `labelStart` or an ASCII digit (`[a-zA-Z0-9_]`) -/
theorem generated_label_rest_iff (c : Char) :
    Gen.genLabelRestOk c = true ↔
      c.toNat < 128 ∧ (labelStart (UInt8.ofNat c.toNat) || isAsciiDigit (UInt8.ofNat c.toNat)) = true :=
  CharsetsGen.label_rest_eq ▸ CharsetsGen.lift_iff

/-- the translated class of the later characters of metric names holds of a character exactly when the character is
    ASCII and its byte is in `metricStart` or an ASCII digit (`[a-zA-Z0-9_:]`) -/
theorem generated_metric_rest_iff (c : Char) :
    Gen.genMetricRestOk c = true ↔
      c.toNat < 128 ∧ (metricStart (UInt8.ofNat c.toNat) || isAsciiDigit (UInt8.ofNat c.toNat)) = true :=
  CharsetsGen.metric_rest_eq ▸ CharsetsGen.lift_iff

/-- the translated metric-name validator, run on what the source scans (the characters of a string,
    or the bytes of its UTF-8 encoding as `char`s: `Gen.identScansBytes`), is the model's
    `isValidMetricName` on the bytes of its UTF-8 encoding -/
theorem generated_metric_ident_agrees (cs : List Char) :
    CharsetsGen.genIdentOkSrc Gen.genMetricFirstOk Gen.genMetricRestOk cs
      = isValidMetricName (cs.flatMap String.utf8EncodeChar) := by
  rw [CharsetsGen.metric_first_eq, CharsetsGen.metric_rest_eq]
  exact CharsetsGen.ident_src_lift metricStart CharsetsGen.metricRest_asciiOnly cs

/-- the translated label-name validator, run on what the source scans (`Gen.identScansBytes`), is the model's
    `isValidLabelName` on the bytes of the UTF-8 encoding -/
theorem generated_label_ident_agrees (cs : List Char) :
    CharsetsGen.genIdentOkSrc Gen.genLabelFirstOk Gen.genLabelRestOk cs
      = isValidLabelName (cs.flatMap String.utf8EncodeChar) := by
  rw [CharsetsGen.label_first_eq, CharsetsGen.label_rest_eq]
  exact CharsetsGen.ident_src_lift labelStart CharsetsGen.labelRest_asciiOnly cs

/-- for every string (list of Unicode scalar values), what the code translated from `src/desc.rs` decides about it
    (scanning its characters, or its UTF-8 bytes as
    `char`s, whichever the source does) is what the hand-written model decides about its UTF-8 bytes:
    for metric names and for label names -/
theorem generated_ident_agrees (cs : List Char) :
    CharsetsGen.genIdentOkSrc Gen.genMetricFirstOk Gen.genMetricRestOk cs
      = isValidMetricName (cs.flatMap String.utf8EncodeChar) ∧
    CharsetsGen.genIdentOkSrc Gen.genLabelFirstOk Gen.genLabelRestOk cs
      = isValidLabelName (cs.flatMap String.utf8EncodeChar) :=
  ⟨generated_metric_ident_agrees cs, generated_label_ident_agrees cs⟩

/-- the two scans cannot be told apart on the translated predicates: over the UTF-8 bytes as `char`s
    (what a byte-scanning `is_valid_ident` sees) and over the characters (what a char-scanning one
    sees) the translated validators answer the same -/
theorem generated_ident_scan_irrelevant (cs : List Char) :
    Gen.genIdentOk Gen.genMetricFirstOk Gen.genMetricRestOk
        ((cs.flatMap String.utf8EncodeChar).map fun b => Char.ofNat b.toNat)
      = Gen.genIdentOk Gen.genMetricFirstOk Gen.genMetricRestOk cs ∧
    Gen.genIdentOk Gen.genLabelFirstOk Gen.genLabelRestOk
        ((cs.flatMap String.utf8EncodeChar).map fun b => Char.ofNat b.toNat)
      = Gen.genIdentOk Gen.genLabelFirstOk Gen.genLabelRestOk cs := by
  -- either scan is the model's validator on the UTF-8 bytes
  rw [CharsetsGen.metric_first_eq, CharsetsGen.metric_rest_eq, CharsetsGen.label_first_eq, CharsetsGen.label_rest_eq]
  exact ⟨(CharsetsGen.ident_lift_bytes _ CharsetsGen.metricRest_asciiOnly _).trans
      (CharsetsGen.ident_lift _ CharsetsGen.metricRest_asciiOnly cs).symm,
    (CharsetsGen.ident_lift_bytes _ CharsetsGen.labelRest_asciiOnly _).trans
      (CharsetsGen.ident_lift _ CharsetsGen.labelRest_asciiOnly cs).symm⟩

-- non-vacuity: the translated validators accept `a:b_9` as a metric name, refuse it as a label name, and refuse a
-- name with a non-ASCII letter or digit - over what the source scans
example : CharsetsGen.genIdentOkSrc Gen.genMetricFirstOk Gen.genMetricRestOk "a:b_9".toList = true ∧
    CharsetsGen.genIdentOkSrc Gen.genLabelFirstOk Gen.genLabelRestOk "a:b_9".toList = false ∧
    CharsetsGen.genIdentOkSrc Gen.genLabelFirstOk Gen.genLabelRestOk "ab_9".toList = true ∧
    CharsetsGen.genIdentOkSrc Gen.genMetricFirstOk Gen.genMetricRestOk "é".toList = false ∧
    CharsetsGen.genIdentOkSrc Gen.genMetricFirstOk Gen.genMetricRestOk "a٣".toList = false ∧
    CharsetsGen.genIdentOkSrc Gen.genMetricFirstOk Gen.genMetricRestOk "9a".toList = false ∧
    CharsetsGen.genIdentOkSrc Gen.genMetricFirstOk Gen.genMetricRestOk [] = false := by decide +kernel

-- the same over each of the two scans, whatever the flag says (`é` is the two elements U+00C3 U+00A9 in the byte
-- scan, `aé` starts well and is refused at the second element)
example : Gen.genIdentOk Gen.genMetricFirstOk Gen.genMetricRestOk "a:b_9".toList = true ∧
    Gen.genIdentOk Gen.genMetricFirstOk Gen.genMetricRestOk (CharsetsGen.bytesAsChars "a:b_9".toList) = true ∧
    Gen.genIdentOk Gen.genLabelFirstOk Gen.genLabelRestOk (CharsetsGen.bytesAsChars "a:b_9".toList) = false ∧
    CharsetsGen.bytesAsChars "é".toList = [Char.ofNat 0xC3, Char.ofNat 0xA9] ∧
    Gen.genIdentOk Gen.genMetricFirstOk Gen.genMetricRestOk "é".toList = false ∧
    Gen.genIdentOk Gen.genMetricFirstOk Gen.genMetricRestOk (CharsetsGen.bytesAsChars "é".toList) = false ∧
    Gen.genIdentOk Gen.genMetricFirstOk Gen.genMetricRestOk (CharsetsGen.bytesAsChars "aé".toList) = false ∧
    Gen.genIdentOk Gen.genMetricFirstOk Gen.genMetricRestOk (CharsetsGen.bytesAsChars "a٣".toList) = false := by
  decide +kernel

/-- label names are metric names without `:` — so the same ASCII-only conclusion holds -/
theorem label_is_metric_name {s : Str} (h : isValidLabelName s = true) : isValidMetricName s = true :=
  validLabel_validMetric h

/-- `Desc::new` accepts exactly when: help non-empty, valid fq name, every const and variable label name valid, and no name occurs twice among const and variable labels.
    (`cl` is the const-label map in *any* iteration order.) -/
theorem desc_accept_iff (fq help : Str) (vl : List Str) (cl : List (Str × Str)) :
    (Desc.new fq help vl cl).isSome = true ↔
      help ≠ [] ∧ isValidMetricName fq = true ∧
      (∀ p ∈ cl, isValidLabelName p.1 = true) ∧ (∀ n ∈ vl, isValidLabelName n = true) ∧
      (cl.map (·.1) ++ vl).Nodup := by
  simp [Option.isSome_iff_exists, Desc.new_eq_some_iff]

-- non-vacuity: a descriptor with two const labels (given in either order) and two variable labels
example : (Desc.new (strOfString "a:b_9") (strOfString "h") [strOfString "x", strOfString "y"]
    [(strOfString "b", strOfString "1"), (strOfString "a", strOfString "2")]).isSome = true := by
  decide +kernel

-- a variable label equal to a const label is refused (the witness of defect F4, DESIGN §12.4)
example : Desc.new (strOfString "z") (strOfString "h") [strOfString "a"]
    [(strOfString "a", strOfString "1")] = none := by decide +kernel

/-- histograms additionally refuse the reserved bucket label: checked over the accepted descriptor -/
def histLabelsOk (le : Str) (d : Desc) : Bool :=
  !(d.varLabels.contains le || d.constPairs.any (·.name == le))

/-- a descriptor produced by `Desc::new` (every library metric describes itself through it); `C06.DescOk r d` is
    another notion: `d` passes the registry-level checks of `register` -/
def DescOk (d : Desc) : Prop := ∃ fq help vl cl, Desc.new fq help vl cl = some d

/-- what `Desc::new` guarantees of a descriptor: a valid name, valid label names, no label name twice -/
theorem descOk_fields {d : Desc} (h : DescOk d) :
    isValidMetricName d.fqName = true ∧
    (∀ n ∈ d.varLabels ++ d.constPairs.map (·.name), isValidLabelName n = true) ∧
    (d.varLabels ++ d.constPairs.map (·.name)).Nodup := by
  obtain ⟨fq, help, vl, cl, hnew⟩ := h
  obtain ⟨_, hfq, hcl, hvl, hnd, rfl⟩ := (Desc.new_eq_some_iff ..).1 hnew
  -- the const pairs are the const-label map, sorted
  have hperm : ((Desc.built fq help vl cl).constPairs.map (·.name)).Perm (cl.map (·.1)) := sortedPairs_names cl
  refine ⟨hfq, fun n hn => ?_, ((List.Perm.append_left vl hperm).trans List.perm_append_comm).nodup_iff.2 hnd⟩
  rcases List.mem_append.1 hn with hn | hn
  · exact hvl n hn
  · obtain ⟨p, hp, rfl⟩ := List.mem_map.1 (hperm.subset hn)
    exact hcl p hp

/-- a collector built from this library's metric types: its descriptors come from `Desc::new`, every
    family it collects carries the name of one of them and every sample's labels are that
    descriptor's `make_label_pairs` -/
def LibColl (c : Coll) : Prop :=
  (∀ d ∈ c.descs, DescOk d) ∧
  ∀ f ∈ c.fams, ∃ d ∈ c.descs, f.name = d.fqName ∧ ∀ s ∈ f.samples, ∃ vals, makeLabelPairs d vals = .ok s.labels

/-- what `Registry::new_custom` and `register` establish and `unregister` keeps -/
structure RegOk (r : Reg) : Prop where
  pref : ∀ p, r.pref = some p → isValidMetricName p = true
  labels : ∀ m, r.labels = some m → (∀ kv ∈ m, isValidLabelName kv.1 = true) ∧ (m.map (·.1)).Nodup
  colls : ∀ p ∈ r.collectors, LibColl p.2 ∧ ∀ d ∈ p.2.descs, clashesCommon r.labels d = false

/-- a registry from `Registry::new_custom` is `RegOk` (the label map is a `HashMap`: its keys are pairwise distinct) -/
theorem regOk_newCustom (pref : Option Str) (labels : Option (List (Str × Str)))
    (hk : ∀ m, labels = some m → (m.map (·.1)).Nodup) (r : Reg) (h : Reg.newCustom pref labels = some r) : RegOk r := by
  simp only [Reg.newCustom, Option.ite_none_right_eq_some, Bool.and_eq_true] at h
  obtain ⟨⟨h1, h2⟩, hr⟩ := h
  cases hr
  refine ⟨fun p hp => ?_, fun m hm => ⟨?_, hk m hm⟩, fun p hp => by cases hp⟩
  · subst hp; exact (Bool.and_eq_true _ _ ▸ h1).2
  · subst hm; exact fun kv hkv => List.all_eq_true.1 h2 kv hkv

/-- registering a library collector, admitted or refused, keeps `RegOk` -/
theorem regOk_register {r : Reg} (hr : RegOk r) (c : Coll) (hc : LibColl c) : RegOk (r.register c).1 := by
  rcases C06.register_cases r c with ⟨_, _, _, h⟩ | ⟨_, _, _, hacc, ⟨_, h⟩ | ⟨_, h⟩⟩ <;> rw [h]
  · exact hr
  · exact hr
  · refine ⟨hr.pref, hr.labels, fun p hp => ?_⟩
    rcases List.mem_append.1 hp with hp | hp
    · exact hr.colls p hp
    · rw [List.mem_singleton.1 hp]
      exact ⟨hc, fun d hd => (hacc.1 d hd).1⟩

/-- `unregister`, successful or refused, keeps `RegOk` -/
theorem regOk_unregister {r : Reg} (hr : RegOk r) (c : Coll) : RegOk (r.unregister c).1 := by
  rcases C06.unregister_cases r c with ⟨_, h⟩ | ⟨_, h⟩ <;> rw [h]
  · exact ⟨hr.pref, hr.labels, fun p hp => hr.colls p (List.mem_filter.1 hp).1⟩
  · exact hr

/-- every sample returned by `gather()` of a registry built by `new_custom` and any history of registrations of library collectors has a valid metric name
    (registry prefix included) and valid, pairwise distinct label names (the metric's own const and
    variable labels plus the registry's common labels) -/
theorem gathered_names_valid {r : Reg} (hr : RegOk r) :
    ∀ f ∈ r.gather, isValidMetricName f.name = true ∧
      ∀ s ∈ f.samples, (∀ l ∈ s.labels, isValidLabelName l.name = true) ∧ (s.labels.map (·.name)).Nodup := by
  intro f hf
  -- every collected family is described by a descriptor from `Desc::new` that repeats no common label
  have hdesc : ∀ f0 ∈ r.collectors.flatMap (·.2.fams), ∃ d, DescOk d ∧ clashesCommon r.labels d = false ∧
      f0.name = d.fqName ∧ ∀ s ∈ f0.samples, ∃ vs, makeLabelPairs d vs = .ok s.labels := by
    intro f0 hf0
    obtain ⟨p, hp, hfp⟩ := List.mem_flatMap.1 hf0
    obtain ⟨d, hd, hfd, hsd⟩ := (hr.colls p hp).1.2 f0 hfp
    exact ⟨d, (hr.colls p hp).1.1 d hd, (hr.colls p hp).2 d hd, hfd, hsd⟩
  constructor
  · obtain ⟨f0, hf0, _, hn, _⟩ := C07.family_help_and_type _ _ _ f hf
    obtain ⟨d, hd, _, hfd, _⟩ := hdesc f0 hf0
    rw [hn, hfd]
    exact applyPrefix_valid hr.pref (descOk_fields hd).1
  · intro s hs
    obtain ⟨g, hg, _, _, _, ss, hss, hsamples⟩ := C07.gather_family_samples _ _ _ f hf
    rw [hsamples] at hs
    obtain ⟨s1, hs1, rfl⟩ := List.mem_map.1 hs
    obtain ⟨f0, hf0, _, hs0⟩ := C07.merged_sample_origin _ g hg s1 (hss.subset hs1)
    obtain ⟨d, hd, hc, _, hsd⟩ := hdesc f0 hf0
    obtain ⟨vs, hmk⟩ := hsd s1 hs0
    have hfields := descOk_fields hd
    have hkeys : (∀ kv ∈ r.labels.getD [], isValidLabelName kv.1 = true) ∧ ((r.labels.getD []).map (·.1)).Nodup := by
      cases hl : r.labels with
      | none => exact ⟨nofun, List.nodup_nil⟩
      | some m => exact hr.labels m hl
    -- the label names are the descriptor's own ones and the keys of the common label map
    have hperm := (makeLabelPairs_names hmk).append (commonPairs_names r.labels)
    rw [← List.map_append] at hperm
    refine ⟨fun l hl' => ?_, hperm.nodup_iff.2 (List.nodup_append.2 ⟨hfields.2.2, hkeys.2, fun a ha b hb e =>
      clashesCommon_eq_false hc a ha (e ▸ hb)⟩)⟩
    rcases List.mem_append.1 (hperm.subset (List.mem_map.2 ⟨l, hl', rfl⟩)) with h | h
    · exact hfields.2.1 _ h
    · obtain ⟨kv, hkv, hk⟩ := List.mem_map.1 h
      exact hk ▸ hkeys.1 kv hkv

inductive RegOp | register (c : Coll) | unregister (c : Coll)

def applyOp (r : Reg) : RegOp → Reg
  | .register c => (r.register c).1
  | .unregister c => (r.unregister c).1

/-- `RegOk` over whole histories: registrations (of library collectors) and unregistrations keep it -/
theorem regOk_history (ops : List RegOp) (hl : ∀ op ∈ ops, ∀ c, op = .register c → LibColl c) :
    ∀ r, RegOk r → RegOk (ops.foldl applyOp r) := fun r h =>
  List.foldlRecOn ops applyOp h fun r h op hop => by
    cases op with
    | register c => exact regOk_register h c (hl _ hop c rfl)
    | unregister c => exact regOk_unregister h c

end Prom.C09
