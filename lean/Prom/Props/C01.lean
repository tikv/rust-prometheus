import Prom.Lemmas.CellFloatMono
import Prom.Lemmas.CellRuns
/-
C01 — Counter increments are never lost and never go backwards.
(C11 shares the machine; see `Props/C11.lean`.)

Subject: the step machine `Conc.aStep` / `Conc.aItem` of one shared cell, at the granularity of the
atomic operations (`load`, `store`, `swap`, `fetch_add`, `fetch_sub`, `compare_exchange(_weak)`). A state is
reachable by ANY list of accepted items — any number of threads, any programs, any interleaving,
any number of spurious compare-exchange failures; the real traces produced under the scheduler are
checked to be accepted runs of exactly this machine.
-/
namespace Prom.C01
open Prom.Conc Prom.RT

theorem onceInv_init (float counter : Bool) (prog : List (List String)) : OnceInv (aInit float counter prog) := by
  refine ⟨?_, ?_, ?_⟩
  · intro t th h hp; rw [(init_thread h).2.2.1] at hp; cases hp
  · intro t th h i
    obtain ⟨_, h0, _, hr⟩ := init_thread h
    simp [commits, aInit, h0, hr]
  · intro t th rv h hrv; rw [(init_thread h).2.2.2] at hrv; cases hrv

theorem onceInv_reach {float counter : Bool} {prog : List (List String)} {s : ASt}
    (h : AReach (aInit float counter prog) s) : OnceInv s := by
  induction h with
  | init => exact onceInv_init _ _ _
  | step _ hs ih => exact aItem_onceInv ih hs

/-- for every accepted run of a counter or gauge cell: the cell holds the
    value the *sequential specification* `specApply` reaches when the committed operations are run
    one at a time in commit order, and every committed operation (a `get` in particular) returned
    exactly what the specification returns at its place in that order. Each operation commits at a
    step of its own call (its load / store / fetch_add / successful compare-exchange), so the order
    is consistent with real time. In particular a value read concurrently is the result of a set of
    increments that contains every increment completed before the read began (they committed
    earlier) and none started after it returned (they commit later). -/
theorem cell_linearizable {float counter : Bool} {prog : List (List String)} {s : ASt}
    (h : AReach (aInit float counter prog) s) : specRun s.float 0 s.lin = some s.mem := by
  induction h with
  | init => simp [aInit, specRun]
  | step _ hs ih => exact aItem_linInv ih hs

/-- for every accepted run: a call that has returned took effect exactly once
    (a local flush of an empty amount: not at all, as in the code), the call in progress took effect
    at most once — exactly once as soon as its last step is done —, a call not yet started did not
    take effect. No increment is lost, none is applied twice. -/
theorem exactly_once {float counter : Bool} {prog : List (List String)} {s : ASt}
    (h : AReach (aInit float counter prog) s) (t : Nat) (th : Th APc) (hth : s.ths[t]? = some th) (i : Nat) :
    commits s.lin t i =
      if i < th.idx then (if skipOp (th.ops.getD i "") then 0 else 1)
      else if i = th.idx ∧ th.retv.isSome ∧ skipOp (th.ops.getD i "") = false then 1 else 0 :=
  (onceInv_reach h).cnt t th hth i

/-- the value a call returns is the one recorded with its commit (which `cell_linearizable` ties to
    the specification) -/
theorem returns_committed_value {float counter : Bool} {prog : List (List String)} {s : ASt}
    (h : AReach (aInit float counter prog) s) (t : Nat) (th : Th APc) (rv : String)
    (hth : s.ths[t]? = some th) (hrv : th.retv = some rv) (hsk : skipOp (th.ops.getD th.idx "") = false) :
    (⟨t, th.idx, th.ops.getD th.idx "", rv⟩ : LinEv) ∈ s.lin :=
  (onceInv_reach h).rvs t th rv hth hrv hsk

/-- the order in which operations took effect is never revised: every
    accepted item leaves the commit log as it was or appends one operation -/
theorem commit_order_fixed {s s' : ASt} {it : Item} (h : aItem s it = .ok s') : s.lin <+: s'.lin :=
  aReplay.lin_mono h

/-- what `casNew` is in each flavour: IEEE addition of the float delta; wrapping `u64` addition resp.
    subtraction of the integer operand -/
theorem casNew_cases {float : Bool} {op : String} {v w : UInt64} (h : casNew float op v = some w) :
    (float = true → ∃ d, floatDelta op = some d ∧ w = f64Add v d) ∧
      (float = false → w = if isSubOp op then v - intDelta op else v + intDelta op) := by
  rcases casNew_some_iff.1 h with ⟨rfl, d, hd, rfl⟩ | ⟨rfl, _, rfl⟩
  · exact ⟨fun _ => ⟨d, hd, rfl⟩, nofun⟩
  · exact ⟨nofun, fun _ => rfl⟩

/-- the compare-exchange arm: a success found exactly the expected value `cur` in the cell and
    replaces it by `cur` plus the call's delta, in the arithmetic of the flavour -/
theorem aEvCas_success {float : Bool} {mem : UInt64} {op : String} {cur : UInt64} {e : Ev} {mem' : UInt64} {rv : String}
    (h : aEvCas float mem op cur e = .ok (mem', .inr rv)) :
    mem = cur ∧ (float = true → ∃ d, floatDelta op = some d ∧ mem' = f64Add mem d) ∧
      (float = false → mem' = if isSubOp op then mem - intDelta op else mem + intDelta op) := by
  cases aEvCas_okAll _ _ _ _ _ _ h with
  | ok _ hm hn => exact ⟨hm, casNew_cases hn⟩

/-- an accepted compare-exchange that succeeds found exactly the value the thread had loaded and replaces it
    by that value plus the thread's own delta: the increment takes effect on the *current* value, nothing
    another thread added is overwritten. Float flavour (`float = true`): IEEE addition of the float delta.
    Integer flavour (`float = false`: the add written as a compare-exchange loop instead of one `fetch_add` /
    `fetch_sub`): wrapping addition resp. subtraction of the integer operand. -/
theorem cas_success_adds_delta {float : Bool} {mem : UInt64} {op : String} {cur : UInt64} {e : Ev} {mem' : UInt64} {rv : String}
    (h : aEv float mem op (.cas cur) e = .ok (mem', .inr rv)) :
    mem = cur ∧ (float = true → ∃ d, floatDelta op = some d ∧ mem' = f64Add mem d) ∧
      (float = false → mem' = if isSubOp op then mem - intDelta op else mem + intDelta op) := by
  unfold aEv at h
  simp only at h
  split at h
  · cases h
  · exact aEvCas_success h

/-- `cas_success_adds_delta` for the float flavour, whose add is always a loop -/
theorem float_cas_success_adds_delta {mem : UInt64} {op : String} {cur : UInt64} {e : Ev} {mem' : UInt64} {rv : String}
    (h : aEv true mem op (.cas cur) e = .ok (mem', .inr rv)) :
    mem = cur ∧ ∃ d, floatDelta op = some d ∧ mem' = f64Add mem d :=
  ⟨(cas_success_adds_delta h).1, (cas_success_adds_delta h).2.1 rfl⟩

/-- an accepted INTEGER compare-exchange that succeeds found exactly the value the thread had loaded (or the
    failed exchange had reported) and replaces it by that value plus (minus, for `dec` / `sub`) the call's
    operand, wrapping: exactly what the single `fetch_add` / `fetch_sub` does to the current value -/
theorem int_cas_success_adds_delta {mem : UInt64} {op : String} {cur : UInt64} {e : Ev} {mem' : UInt64} {rv : String}
    (h : aEv false mem op (.cas cur) e = .ok (mem', .inr rv)) :
    mem = cur ∧ mem' = if isSubOp op then mem - intDelta op else mem + intDelta op :=
  ⟨(cas_success_adds_delta h).1, (cas_success_adds_delta h).2.2 rfl⟩

/-- an accepted event that does not complete its call — the load of an add written as a loop, a failed
    compare-exchange (value changed, or spurious) — changes nothing: a failed attempt has no effect,
    it is retried -/
theorem cas_failure_no_effect {float : Bool} {mem : UInt64} {op : String} {pc : APc} {e : Ev} {mem' : UInt64} {pc' : APc}
    (h : aEv float mem op pc e = .ok (mem', .inl pc')) : mem' = mem :=
  aEv_continue h

/-- **the state after a failed compare-exchange**: an accepted event other than a load after which the
    call continues is a failed compare-exchange; it reported the cell's current value, changed nothing,
    and leaves the thread at `retry` of exactly that value (not back at `start`: from `retry` the loop may
    load again or go on with the reported value, `retry_accepts_both`) -/
theorem cas_failure_goes_to_retry {float : Bool} {mem : UInt64} {op : String} {pc : APc} {e : Ev} {mem' : UInt64} {pc' : APc}
    (h : aEv float mem op pc e = .ok (mem', .inl pc')) (hk : e.k ≠ "L") :
    mem' = mem ∧ pc' = .retry mem ∧ e.res = mem ∧ e.ok = false := by
  rcases aEv_cases h with ⟨hs, _⟩ | ⟨cur, hc, _⟩
  · cases hs with | load hl => exact absurd hl hk
  · cases hc with | fail _ hok hr => exact ⟨rfl, rfl, hr, hok⟩

/-- the load of an add written as a loop (first attempt, or a reload after a failure) returns the cell's value,
    changes nothing, and leaves the thread at the compare-exchange expecting that value -/
theorem load_goes_to_cas {float : Bool} {mem : UInt64} {op : String} {pc : APc} {e : Ev} {mem' : UInt64} {pc' : APc}
    (h : aEv float mem op pc e = .ok (mem', .inl pc')) (hk : e.k = "L") :
    mem' = mem ∧ pc' = .cas mem := by
  rcases aEv_cases h with ⟨hs, _⟩ | ⟨cur, hc, _⟩
  · cases hs; exact ⟨rfl, rfl⟩
  · cases hc with | fail hk' => exact absurd (hk.symm.trans hk') (by decide)

/-- **retry accepts exactly both loops**: after a failed compare-exchange that reported `cur`, a load
    is accepted exactly as at `start` (the reloading loop) and every other event exactly as at
    `cas cur` (the loop that goes on with the reported value) -/
theorem retry_accepts_both (float : Bool) (mem : UInt64) (op : String) (cur : UInt64) (e : Ev) :
    aEv float mem op (.retry cur) e =
      if e.k = "L" then aEv float mem op .start e else aEv float mem op (.cas cur) e := by
  unfold aEv
  by_cases hl : (e.loc != "v0") = true
  · simp [hl]
  · by_cases hk : e.k = "L" <;> simp [hl, hk]

/-- `cas_success_adds_delta` for the retry without a reload: an add (`floatDelta op` is defined: not a
    `get` / `set` / `reset`) that completes from `retry cur` did so by a compare-exchange that found exactly
    the reported value `cur` still in the cell and replaced it by that value plus the thread's own delta
    (float flavour: IEEE addition; integer flavour: wrapping addition / subtraction of the operand) -/
theorem retry_success_adds_delta {float : Bool} {mem : UInt64} {op : String} {cur : UInt64} {e : Ev} {mem' : UInt64} {rv : String}
    (h : aEv float mem op (.retry cur) e = .ok (mem', .inr rv)) (hd : (floatDelta op).isSome = true) :
    mem = cur ∧ (float = true → ∃ d, floatDelta op = some d ∧ mem' = f64Add mem d) ∧
      (float = false → mem' = if isSubOp op then mem - intDelta op else mem + intDelta op) := by
  rcases aEv_cases h with ⟨hst, hp | ⟨c, _, hk⟩⟩ | ⟨c, hc, hp⟩
  · cases hp
  · -- a load completes the call only if the call is a `get`, which has no delta
    cases hst with | done _ hget => simp [floatDelta, hget hk] at hd
  · cases hc with | ok _ hm hn =>
    rcases hp with hp | ⟨hp, _⟩ <;> cases hp <;> exact ⟨hm, casNew_cases hn⟩

/-- one step of "reads never go backwards": on the integer counter a committed `inc` / `inc_by` adds its
    (unsigned) operand, so without wrap-around the value after it is at least the value before (over
    whole runs: `reads_monotone_int`) -/
theorem int_inc_monotone (v : UInt64) (op : String) (hn : isSubOp op = false)
    (hg : (opName op == "get") = false) (hs : (opName op == "set" || opName op == "reset") = false)
    (hov : v.toNat + (intDelta op).toNat < 2 ^ 64) :
    ∃ v', specApply false v op = some (v', "") ∧ v ≤ v' := by
  refine ⟨v + intDelta op, by rw [specApply_int v hg hs, hn]; rfl, ?_⟩
  rw [UInt64.le_iff_toNat_le, UInt64.toNat_add, Nat.mod_eq_of_lt hov]
  omega

theorem AReach.trans {s0 s1 s2 : ASt} (h1 : AReach s0 s1) (h2 : AReach s1 s2) : AReach s0 s2 :=
  aReach_iff_run.2 ((aReach_iff_run.1 h1).trans (aReach_iff_run.1 h2))

theorem aItem_float {s s' : ASt} {it : Item} (h : aItem s it = .ok s') : s'.float = s.float := by
  cases aItem_shape h with
  | commit e th pc rv mem' hth hpc hev hs => subst hs; rfl
  | cont e th pc pc' hth hpc hs => subst hs; rfl
  | callSkip t i op th hth hpc hrv hsk hs => subst hs; rfl
  | callOpen t i op th hth hpc hrv hsk hs => subst hs; rfl
  | ret t i th rv hth hrv hs => subst hs; rfl

theorem reach_float {s0 s : ASt} (h : AReach s0 s) : s.float = s0.float := by
  induction h with
  | init => rfl
  | step _ hs ih => rw [aItem_float hs, ih]

/-- **commit order over a whole run**: whatever happens after a state, the commit log of that state
    stays a prefix of the later log — an operation committed now precedes, in the log, every
    operation that commits later -/
theorem reach_lin_prefix {s s' : ASt} (h : AReach s s') : s.lin <+: s'.lin :=
  aReplay.run_lin_prefix (aReach_iff_run.1 h)

theorem aItem_th_pres {s s' : ASt} {it : Item} (h : aItem s it = .ok s') {t : Nat} {th : Th APc}
    (hth : s.ths[t]? = some th) : ∃ th', s'.ths[t]? = some th' ∧ th'.ops = th.ops ∧ th.idx ≤ th'.idx :=
  (aReplay.step_view h).th_pres hth

theorem reach_th_pres {s s' : ASt} (h : AReach s s') {t : Nat} {th : Th APc}
    (hth : s.ths[t]? = some th) : ∃ th', s'.ths[t]? = some th' ∧ th'.ops = th.ops ∧ th.idx ≤ th'.idx :=
  aReplay.run_th_pres (aReach_iff_run.1 h) hth

/-- every accepted run of an INTEGER counter cell (any number of threads,
    any schedule) whose committed operations are only `get` / `inc` / `incby` / `lflush` (no
    `reset`, no `set`, no `dec` / `sub`) and whose increments do not add up to `2^64`: for any two
    committed `get`s at positions `i < j` of the commit log, the earlier one returned `hexStr vi`,
    the later one `hexStr vj`, where `vi`, `vj` are the values of the cell at those positions, and
    `vi ≤ vj`. Reads never go backwards. -/
theorem reads_monotone_int {counter : Bool} {prog : List (List String)} {s : ASt}
    (h : AReach (aInit false counter prog) s) (hi : IncOnly s.lin) (hw : NoWrap s.lin)
    {i j : Nat} (hij : i < j) {x y : LinEv} (hx : s.lin[i]? = some x) (hy : s.lin[j]? = some y)
    (hgx : opName x.op = "get") (hgy : opName y.op = "get") :
    ∃ vi vj, (valuesAlong false 0 s.lin)[i]? = some vi ∧ (valuesAlong false 0 s.lin)[j]? = some vj ∧
      x.rv = hexStr vi ∧ y.rv = hexStr vj ∧ vi ≤ vj := by
  have hl := cell_linearizable h
  rw [reach_float h] at hl
  exact spec_reads_pairwise hl (int_values_monotone hi hw) hij hx hy hgx hgy

/-- `reads_monotone_int` on whatever values the two returned strings denote (`hexStr` is injective) -/
theorem reads_monotone_int' {counter : Bool} {prog : List (List String)} {s : ASt}
    (h : AReach (aInit false counter prog) s) (hi : IncOnly s.lin) (hw : NoWrap s.lin)
    {i j : Nat} (hij : i < j) {x y : LinEv} (hx : s.lin[i]? = some x) (hy : s.lin[j]? = some y)
    (hgx : opName x.op = "get") (hgy : opName y.op = "get")
    {a b : UInt64} (ha : x.rv = hexStr a) (hb : y.rv = hexStr b) : a ≤ b := by
  obtain ⟨vi, vj, _, _, hri, hrj, hle⟩ := reads_monotone_int h hi hw hij hx hy hgx hgy
  rw [hexStr_inj (ha.symm.trans hri), hexStr_inj (hb.symm.trans hrj)]
  exact hle

/-- the values recorded for the operations committed so far are never revised by the rest of the run -/
theorem values_fixed {float : Bool} {s s' : ASt} (h : AReach s s') :
    valuesAlong float 0 s.lin <+: valuesAlong float 0 s'.lin :=
  valuesAlong_prefix float 0 (reach_lin_prefix h)

/-- the commit order is consistent with real time. Take any state `s`
    of an accepted run and any continuation to `s'`. A call (`t`, `i`) that has RETURNED in `s`
    and a call (`t'`, `i'`) that in `s` has not started (or is in progress but has not taken effect
    yet): wherever the two appear in the later commit log, the first is before the second. (A call
    commits at a step between its call mark and its return mark, and the log only grows at its end.) -/
theorem real_time_commit_order {float counter : Bool} {prog : List (List String)} {s s' : ASt}
    (h : AReach (aInit float counter prog) s) (h' : AReach s s')
    {t t' : Nat} {th th' : Th APc} (hth : s.ths[t]? = some th) (hth' : s.ths[t']? = some th')
    {i i' : Nat} (hret : i < th.idx) (hnot : th'.idx < i' ∨ (i' = th'.idx ∧ th'.retv = none))
    {p q : Nat} {x y : LinEv} (hx : s'.lin[p]? = some x) (hy : s'.lin[q]? = some y)
    (hxt : x.tid = t ∧ x.idx = i) (hyt : y.tid = t' ∧ y.idx = i') : p < q := by
  -- the later call has no commit in `s.lin` (`exactly_once`), so no entry
  have hno : ∀ e ∈ s.lin, ¬ (e.tid = t' ∧ e.idx = i') := by
    refine no_entry_of_commits_zero ?_
    rw [exactly_once h t' th' hth' i']
    rcases hnot with hn | ⟨hn, hr⟩
    · have h1 : ¬ i' < th'.idx := by omega
      have h2 : ¬ i' = th'.idx := by omega
      simp [h1, h2]
    · have h1 : ¬ i' < th'.idx := by omega
      simp [h1, hr]
  exact aReplay.run_real_time (aReach_iff_run.1 h') hth hret hno hx hy hxt hyt

/-- "reads that follow one another in real time never decrease unless
    `reset()` intervened", for the integer counter: in an accepted run whose committed operations are
    increment-only and do not wrap, a `get` that has RETURNED before another `get` is called (state
    `s` lies between the return mark of the first and the commit of the second) returned a value
    `≤` the value the second one returns. -/
theorem reads_real_time_monotone {counter : Bool} {prog : List (List String)} {s s' : ASt}
    (h : AReach (aInit false counter prog) s) (h' : AReach s s')
    (hi : IncOnly s'.lin) (hw : NoWrap s'.lin)
    {t t' : Nat} {th th' : Th APc} (hth : s.ths[t]? = some th) (hth' : s.ths[t']? = some th')
    {i i' : Nat} (hret : i < th.idx) (hnot : th'.idx < i' ∨ (i' = th'.idx ∧ th'.retv = none))
    {x y : LinEv} (hx : x ∈ s'.lin) (hy : y ∈ s'.lin)
    (hxt : x.tid = t ∧ x.idx = i) (hyt : y.tid = t' ∧ y.idx = i')
    (hgx : opName x.op = "get") (hgy : opName y.op = "get") :
    ∃ vx vy, x.rv = hexStr vx ∧ y.rv = hexStr vy ∧ vx ≤ vy := by
  obtain ⟨p, hp⟩ := List.getElem?_of_mem hx
  obtain ⟨q, hq⟩ := List.getElem?_of_mem hy
  have hpq := real_time_commit_order h h' hth hth' hret hnot hp hq hxt hyt
  obtain ⟨vi, vj, _, _, h1, h2, h3⟩ := reads_monotone_int (h.trans h') hi hw hpq hp hq hgx hgy
  exact ⟨vi, vj, h1, h2, h3⟩

/-- the FLOAT counter: every accepted run of a float cell (any number of
    threads, any schedule) whose commit log passes the executable step check `floatStepsMonoB` (each
    committed step of the sequential specification led to a value `>=` the one before, in IEEE order —
    the driver evaluates exactly this on the commit log of every replayed float-counter run): for any
    two committed `get`s at positions `i < j` of the commit log, the earlier one returned `hexStr vi`,
    the later one `hexStr vj`, the values of the cell at those positions, and `vi <= vj` as IEEE
    doubles. No assumption on `f64Add` is made here. -/
theorem reads_monotone_float {counter : Bool} {prog : List (List String)} {s : ASt}
    (h : AReach (aInit true counter prog) s) (hm : floatStepsMonoB 0 s.lin = true)
    {i j : Nat} (hij : i < j) {x y : LinEv} (hx : s.lin[i]? = some x) (hy : s.lin[j]? = some y)
    (hgx : opName x.op = "get") (hgy : opName y.op = "get") :
    ∃ vi vj, (valuesAlong true 0 s.lin)[i]? = some vi ∧ (valuesAlong true 0 s.lin)[j]? = some vj ∧
      x.rv = hexStr vi ∧ y.rv = hexStr vj ∧ f64Le vi vj = true := by
  have hl := cell_linearizable h
  rw [reach_float h] at hl
  exact spec_reads_pairwise hl (float_values_monotone_from 0 _ hm).2 hij hx hy hgx hgy

/-- `reads_monotone_float` from the one named fact about IEEE addition
    (`AddMono`: adding a delta `>= +0` to a value `>= +0` gives a value `>=`, not NaN) instead of the
    per-run check: every accepted run whose committed operations are `get`s and adds of deltas
    `>= +0` (`FloatIncOnly`: no `set`, no `reset`, no negative or NaN delta). -/
theorem reads_monotone_float_of_addMono (ha : AddMono) {counter : Bool} {prog : List (List String)} {s : ASt}
    (h : AReach (aInit true counter prog) s) (hi : FloatIncOnly s.lin)
    {i j : Nat} (hij : i < j) {x y : LinEv} (hx : s.lin[i]? = some x) (hy : s.lin[j]? = some y)
    (hgx : opName x.op = "get") (hgy : opName y.op = "get") :
    ∃ vi vj, x.rv = hexStr vi ∧ y.rv = hexStr vj ∧ f64Le vi vj = true := by
  obtain ⟨vi, vj, _, _, h1, h2, h3⟩ :=
    reads_monotone_float h (floatStepsMonoB_of_addMono ha (by decide) hi) hij hx hy hgx hgy
  exact ⟨vi, vj, h1, h2, h3⟩

/-- "reads that follow one another in real time never decrease
    unless `reset()` intervened", for the float counter: in an accepted run whose commit log passes
    the step check, a `get` that has RETURNED before another `get` is called returned a value `<=`
    (IEEE) the value the second one returns. -/
theorem reads_real_time_monotone_float {counter : Bool} {prog : List (List String)} {s s' : ASt}
    (h : AReach (aInit true counter prog) s) (h' : AReach s s')
    (hm : floatStepsMonoB 0 s'.lin = true)
    {t t' : Nat} {th th' : Th APc} (hth : s.ths[t]? = some th) (hth' : s.ths[t']? = some th')
    {i i' : Nat} (hret : i < th.idx) (hnot : th'.idx < i' ∨ (i' = th'.idx ∧ th'.retv = none))
    {x y : LinEv} (hx : x ∈ s'.lin) (hy : y ∈ s'.lin)
    (hxt : x.tid = t ∧ x.idx = i) (hyt : y.tid = t' ∧ y.idx = i')
    (hgx : opName x.op = "get") (hgy : opName y.op = "get") :
    ∃ vx vy, x.rv = hexStr vx ∧ y.rv = hexStr vy ∧ f64Le vx vy = true := by
  obtain ⟨p, hp⟩ := List.getElem?_of_mem hx
  obtain ⟨q, hq⟩ := List.getElem?_of_mem hy
  have hpq := real_time_commit_order h h' hth hth' hret hnot hp hq hxt hyt
  obtain ⟨vi, vj, _, _, h1, h2, h3⟩ := reads_monotone_float (h.trans h') hm hpq hp hq hgx hgy
  exact ⟨vi, vj, h1, h2, h3⟩

/-- the step check is what the hypothesis rests on: a log whose addition lowered the cell is rejected
    by it (so the driver reports such a run), and under `AddMono` no increment-only log is
    (`floatStepsMonoB_of_addMono`) -/
theorem float_step_check_exact (v : UInt64) (x : LinEv) (r : List LinEv) (d : UInt64)
    (hd : floatDelta x.op = some d) (hbad : f64Le v (f64Add v d) = false) :
    floatStepsMonoB v (x :: r) = false := by
  unfold floatStepsMonoB
  simp only [specApply_float_delta v hd, hbad, Bool.false_and]

/-- the log of the run: thread 0 `inc`, thread 1 `get` (reads 1), thread 0 `reset`, thread 1 `get`
    (reads 0) -/
def resetLog : List LinEv := [⟨0, 0, "inc", ""⟩, ⟨1, 0, "get", "1"⟩, ⟨0, 1, "reset", ""⟩, ⟨1, 1, "get", "0"⟩]

/-- the hypothesis "no `reset`" is needed: `inc; get; reset; get` is a
    legal sequential history of the integer cell (no wrap-around anywhere), the cell values along it
    are 1, 1, 0, 0, and the second `get` returns less than the first; the log is not `IncOnly`, and it
    is exactly the `reset` that breaks it: without it the log is `IncOnly` and `NoWrap` -/
theorem reset_allows_decrease :
    specRun false 0 resetLog = some 0 ∧ valuesAlong false 0 resetLog = [1, 1, 0, 0] ∧
      ¬ List.Pairwise (· ≤ ·) (valuesAlong false 0 resetLog) ∧
      ¬ IncOnly resetLog ∧ IncOnly (resetLog.eraseIdx 2) ∧ NoWrap (resetLog.eraseIdx 2) := by
  have h1 : specRun false 0 resetLog = some 0 := by
    simp [specRun, resetLog, specApply_inc_lit, specApply_get_lit, specApply_reset_lit, hexStr_one, hexStr_zero]
  have h2 : valuesAlong false 0 resetLog = [1, 1, 0, 0] := by
    simp [valuesAlong, resetLog, specApply_inc_lit, specApply_get_lit, specApply_reset_lit]
  refine ⟨h1, h2, ?_, ?_, ?_, ?_⟩
  · rw [h2]; decide
  · intro hi
    have := hi ⟨0, 1, "reset", ""⟩ (by simp [resetLog])
    simp [opName_reset] at this
  · intro x hx
    simp only [resetLog, List.eraseIdx, List.mem_cons, List.not_mem_nil, or_false] at hx
    rcases hx with rfl | rfl | rfl <;> simp [opName_get, opName_inc]
  · simp [NoWrap, deltaSum, resetLog, opDeltaNat, opName_get, opName_inc, intDelta, u64OfInt_one]

theorem runItems_reach {s s' : ASt} {tr : List Item} {n : Nat} (h : runItems aItem s tr n = .ok s') :
    AReach s s' :=
  aReach_iff_run.2 (.of_runItems h)

/-- an interleaving of the programs `inc; reset` (thread 0) and `get; get` (thread 1), as the shim
    reports it: call mark, the atomic event (`fetch_add 1` → old value 0; `load` → 1; `store 0`;
    `load` → 0), return mark with the returned value -/
def resetTrace : List Item :=
  [.call 0 "0" "inc", .ev ⟨0, "A", "v0", "Relaxed", 1, 0, 0, true⟩, .ret 0 "0" "",
   .call 1 "0" "get", .ev ⟨1, "L", "v0", "Relaxed", 0, 0, 1, true⟩, .ret 1 "0" "1",
   .call 0 "1" "reset", .ev ⟨0, "S", "v0", "Relaxed", 0, 0, 0, true⟩, .ret 0 "1" "",
   .call 1 "1" "get", .ev ⟨1, "L", "v0", "Relaxed", 0, 0, 0, true⟩, .ret 1 "1" "0"]

/-- the four-operation history of `reset_allows_decrease` is the
    commit log of an accepted run of the machine (the trace `resetTrace`: both `get`s of thread 1
    are called after the previous call has returned, the first returns `"1"`, the second `"0"`): the
    decrease after a `reset` is observable in real time, not just a feature of the specification -/
theorem reset_allows_decrease_run :
    ∃ s, runItems aItem (aInit false true [["inc", "reset"], ["get", "get"]]) resetTrace 0 = .ok s ∧
      AReach (aInit false true [["inc", "reset"], ["get", "get"]]) s ∧ s.lin = resetLog ∧ s.mem = 0 := by
  refine accepted runItems_reach ?_
  simp [runItems, resetTrace, resetLog, aItem, aStep, aEv, aEvStart, Conc.guard, aInit, openCall, closeCall, repr_0,
    repr_1, opName_inc, opName_get, opName_reset, u64OfInt_zero, u64OfInt_one, ordGe_self, isSubOp, intDelta,
    hexStr_one, hexStr_zero, -getElem?_pos, List.getElem?_cons_zero, List.getElem?_cons_succ]

/-- the loop written as `Err(v) => cur = v` is accepted: `retryTrace`
    (thread 0's compare-exchange fails, it retries with the value the failure reported, without loading
    again, and succeeds) is an accepted run of the float counter machine; both increments are committed,
    thread 1's first, each exactly once, and the cell holds `(0 + 1) + 1`. The same trace with a reload
    between the two compare-exchanges of thread 0 is accepted as well (`retry_with_reload_accepted`). -/
theorem retry_without_reload_accepted :
    ∃ s, runItems aItem (aInit true true [["inc"], ["inc"]]) retryTrace 0 = .ok s ∧
      AReach (aInit true true [["inc"], ["inc"]]) s ∧
      s.lin = [⟨1, 0, "inc", ""⟩, ⟨0, 0, "inc", ""⟩] ∧ s.mem = retryV2 ∧ allDone s.ths = true := by
  refine accepted runItems_reach ?_
  rw [runItems_of_take 7 retry_run7 7]
  simp [runItems, retryTrace, retryS7, aItem, aStep, aEv, aEvCas, Conc.guard, closeCall, repr_0, floatDelta_inc,
    retryV2, allDone, casNew, casOrd, ordGe_self, -getElem?_pos, List.getElem?_cons_zero]

/-- the loop written with a reload after the failure is accepted as well: as `retryTrace`, with a load
    (returning the current value) between thread 0's failed and its successful compare-exchange -/
theorem retry_with_reload_accepted :
    ∃ s, runItems aItem (aInit true true [["inc"], ["inc"]])
        (retryTrace.take 7 ++ [.ev ⟨0, "L", "v0", "Acquire", 0, 0, retryV1, true⟩] ++ retryTrace.drop 7) 0 = .ok s ∧
      s.lin = [⟨1, 0, "inc", ""⟩, ⟨0, 0, "inc", ""⟩] ∧ s.mem = retryV2 ∧ allDone s.ths = true := by
  rw [List.append_assoc, runItems_append retry_run7 _ 7]
  simp [runItems, retryTrace, retryS7, aItem, aStep, aEv, aEvStart, aEvCas, Conc.guard, closeCall, repr_0, opName_inc,
    floatDelta_inc, retryV2, allDone, casNew, casOrd, ordGe_self, -getElem?_pos, List.getElem?_cons_zero]

/-- an integer `inc` written as a compare-exchange loop is accepted:
    `intCasTrace` (two increments race, thread 0's exchange fails, it retries with the value the failure
    reported and succeeds) is an accepted run of the integer counter machine; both increments are committed,
    thread 1's first, each exactly once, and the cell holds the sum `2`. The single `fetch_add` is
    accepted too (`reset_allows_decrease_run`); so are the loop that loads again after the failure
    (`int_add_as_cas_loop_reload_accepted`), stronger orderings, `dec` / `sub`, and a mix of both ways of
    writing the operation in one run (`int_sub_as_cas_loop_accepted`). -/
theorem int_add_as_cas_loop_accepted :
    ∃ s, runItems aItem (aInit false true [["inc"], ["inc"]]) intCasTrace 0 = .ok s ∧
      AReach (aInit false true [["inc"], ["inc"]]) s ∧
      s.lin = [⟨1, 0, "inc", ""⟩, ⟨0, 0, "inc", ""⟩] ∧ s.mem = 2 ∧ allDone s.ths = true := by
  refine accepted runItems_reach ?_
  rw [runItems_of_take 7 intCas_run7 7]
  simp [runItems, intCasTrace, intCasS6, intCasS7, aItem, aStep, aEv, aEvCas, Conc.guard, closeCall, repr_0,
    opName_inc, ordGe_self, casNew, casOrd, isSubOp, intDelta, u64OfInt_one, allDone, -getElem?_pos,
    List.getElem?_cons_zero]

/-- the integer loop written with a reload after the failure is accepted as well: as `intCasTrace`, with a
    load (returning the current value `1`) between thread 0's failed and its successful compare-exchange -/
theorem int_add_as_cas_loop_reload_accepted :
    ∃ s, runItems aItem (aInit false true [["inc"], ["inc"]])
        (intCasTrace.take 7 ++ [.ev ⟨0, "L", "v0", "Relaxed", 0, 0, 1, true⟩] ++ intCasTrace.drop 7) 0 = .ok s ∧
      s.lin = [⟨1, 0, "inc", ""⟩, ⟨0, 0, "inc", ""⟩] ∧ s.mem = 2 ∧ allDone s.ths = true := by
  rw [List.append_assoc, runItems_append intCas_run7 _ 7]
  simp [runItems, intCasTrace, intCasS6, intCasS7, aItem, aStep, aEv, aEvStart, aEvCas, Conc.guard, closeCall, repr_0,
    opName_inc, ordGe_self, casNew, casOrd, isSubOp, intDelta, u64OfInt_one, allDone, -getElem?_pos,
    List.getElem?_cons_zero]

theorem splitOn_dec : "dec".splitOn ":" = ["dec"] := splitOn_colon (by decide +kernel)
theorem opName_dec : opName "dec" = "dec" := opName_of_split splitOn_dec

/-- an integer GAUGE: thread 0 `dec`, written as a loop with stronger orderings than needed (load Acquire,
    compare-exchange AcqRel), races with thread 1's `inc`, written as the single `fetch_add`. Thread 0 loads
    `0`; thread 1 adds `1`; thread 0's exchange `0 -> 0 - 1` (wrapping: `0xffffffffffffffff`) fails and
    reports `1`; its retry `1 -> 0` succeeds -/
def intSubCasTrace : List Item :=
  [.call 0 "0" "dec", .call 1 "0" "inc",
   .ev ⟨0, "L", "v0", "Acquire", 0, 0, 0, true⟩,
   .ev ⟨1, "A", "v0", "Relaxed", 1, 0, 0, true⟩, .ret 1 "0" "",
   .ev ⟨0, "C", "v0", "AcqRel", 0, 0xffffffffffffffff, 1, false⟩,
   .ev ⟨0, "C", "v0", "AcqRel", 1, 0, 1, true⟩, .ret 0 "0" ""]

/-- `dec` as a compare-exchange loop (wrapping subtraction, any orderings
    at least Relaxed), in one run with an `inc` that is a single `fetch_add`: accepted, both committed once,
    the `inc` first, the cell holds `0 + 1 - 1 = 0` -/
theorem int_sub_as_cas_loop_accepted :
    ∃ s, runItems aItem (aInit false false [["dec"], ["inc"]]) intSubCasTrace 0 = .ok s ∧
      AReach (aInit false false [["dec"], ["inc"]]) s ∧
      s.lin = [⟨1, 0, "inc", ""⟩, ⟨0, 0, "dec", ""⟩] ∧ s.mem = 0 ∧ allDone s.ths = true := by
  have w : (0 : UInt64) - 1 = 0xffffffffffffffff := by decide +kernel
  refine accepted runItems_reach ?_
  simp [runItems, intSubCasTrace, aItem, aStep, aEv, aEvStart, aEvCas, Conc.guard, aInit, openCall, closeCall, repr_0,
    opName_inc, opName_dec, ordGe_self, ordGe_relaxed, casNew, casOrd, isSubOp, intDelta, u64OfInt_one, allDone, w,
    -getElem?_pos, List.getElem?_cons_zero, List.getElem?_cons_succ]

/-- the loop is not accepted blindly: `intCasTrace` with thread 0's stale compare-exchange (`0 -> 1`, made when
    the cell already holds `1`) reported as a SUCCESS is rejected at that event (item 6) - accepting it would
    lose thread 1's increment -/
theorem int_cas_stale_success_rejected :
    runItems aItem (aInit false true [["inc"], ["inc"]])
        (intCasTrace.take 6 ++ [.ev ⟨0, "C", "v0", "Relaxed", 0, 1, 0, true⟩, .ret 0 "0" ""]) 0 =
      .error "diverge@6: cas succeeded although the cell no longer holds the loaded value" := by
  rw [runItems_append intCas_run6 _ 6]
  simp [runItems, intCasS6, aItem, aStep, aEv, aEvCas, Conc.guard, opName_inc, ordGe_self, casNew, casOrd, isSubOp,
    intDelta, u64OfInt_one, repr_6, toString_str, -getElem?_pos, List.getElem?_cons_zero]

/-- non-vacuity of `reads_monotone_int` / `reads_real_time_monotone`: an accepted run of `inc; inc`
    against `get; get` whose commit log (`inc, get, inc, get`, reads 1 then 2) is `IncOnly` and `NoWrap` -/
example : ∃ s, AReach (aInit false true [["inc", "inc"], ["get", "get"]]) s ∧
    s.lin = [⟨0, 0, "inc", ""⟩, ⟨1, 0, "get", "1"⟩, ⟨0, 1, "inc", ""⟩, ⟨1, 1, "get", "2"⟩] ∧
    IncOnly s.lin ∧ NoWrap s.lin := by
  have h : ∃ s, runItems aItem (aInit false true [["inc", "inc"], ["get", "get"]])
      [.call 0 "0" "inc", .call 1 "0" "get", .ev ⟨0, "A", "v0", "Relaxed", 1, 0, 0, true⟩,
       .ev ⟨1, "L", "v0", "Relaxed", 0, 0, 1, true⟩, .ret 1 "0" "1", .ret 0 "0" "",
       .call 0 "1" "inc", .ev ⟨0, "A", "v0", "Relaxed", 1, 0, 1, true⟩, .ret 0 "1" "",
       .call 1 "1" "get", .ev ⟨1, "L", "v0", "Relaxed", 0, 0, 2, true⟩, .ret 1 "1" "2"] 0 = .ok s ∧
      s.lin = [⟨0, 0, "inc", ""⟩, ⟨1, 0, "get", "1"⟩, ⟨0, 1, "inc", ""⟩, ⟨1, 1, "get", "2"⟩] := by
    simp [runItems, aItem, aStep, aEv, aEvStart, Conc.guard, aInit, openCall, closeCall, repr_0, repr_1, opName_inc,
      opName_get, u64OfInt_one, ordGe_self, isSubOp, intDelta, hexStr_one, hexStr_two, -getElem?_pos, List.getElem?_cons_zero,
      List.getElem?_cons_succ]
  obtain ⟨s, hr, hl⟩ := h
  refine ⟨s, runItems_reach hr, hl, ?_, ?_⟩
  · rw [hl]
    intro x hx
    simp only [List.mem_cons, List.not_mem_nil, or_false] at hx
    rcases hx with rfl | rfl | rfl | rfl <;> simp [opName_get, opName_inc]
  · rw [hl]
    simp [NoWrap, deltaSum, opDeltaNat, opName_get, opName_inc, intDelta, u64OfInt_one]

/-- non-vacuity: the initial state of a two-thread program is reachable (and the invariants hold of it) -/
example : AReach (aInit false true [["inc"], ["get"]]) (aInit false true [["inc"], ["get"]]) ∧
    OnceInv (aInit false true [["inc"], ["get"]]) := ⟨.init, onceInv_init _ _ _⟩

end Prom.C01
