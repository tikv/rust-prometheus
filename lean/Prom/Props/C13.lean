import Prom.Lemmas.Pb.DataModel
/-
C13 — Protobuf exposition decodes to the gathered state.
`writerTable` is regenerated from proto/proto_model.rs (what the code writes), `schema` from
proto/proto_model.proto (what the format declares), by two different parsers; their compatibility
is a theorem re-checked on every run.
-/
namespace Prom.C13
open Prom.Pb

/-- the writer table extracted from the generated Rust code and the
    schema extracted from the .proto file agree (re-proved from the regenerated tables on every run:
    an edited field number, wire type, presence or size rule in proto_model.rs breaks this theorem) -/
theorem compatible_generated : Compatible Gen.writerTable Gen.schema = true := by decide +kernel

/-- the .proto file declares the package of the Prometheus client data model -/
theorem package_is_prometheus : Gen.protoPackage = "io.prometheus.client" := by decide +kernel

/-- the one enum of the .proto file is `MetricType`, with the numbers `typeNum` writes -/
theorem metric_type_numbers :
    Gen.enums = [("MetricType", [("COUNTER", 0), ("GAUGE", 1), ("SUMMARY", 2), ("UNTYPED", 3), ("HISTOGRAM", 4)])] := by
  decide +kernel

/-- every 64-bit value written as a base-128 varint is read back exactly,
    leaving the rest of the stream untouched -/
theorem varint_roundtrip (n : Nat) (rest : List UInt8) (h : n < 2 ^ 64) :
    readVarint 10 (varint n ++ rest) = some (n, rest) :=
  varint_rt n rest h

/-- a double is written as its 8 little-endian bytes and read back bit-exactly
    (every f64 class: ±0, subnormals, infinities, every NaN payload) -/
theorem fixed64_roundtrip (b : UInt64) (rest : List UInt8) :
    readFixed64 (fixed64 b ++ rest) = some (b, rest) :=
  fixed64_rt b rest

/-- given that every family's message can be written (the check compares the table-driven writer with the bytes
    of `ProtobufEncoder::encode` for every generated family, driver area `pb`: it writes whatever the data model
    holds), the encoder refuses exactly when some family has no name or no samples -/
theorem refused_iff (tbl : List (String × List WField)) (fams : List Family)
    (hw : ∀ f ∈ fams, (encDelimited tbl (familyFields f)).isSome = true) :
    (encodeStream tbl fams).2 = false ↔ ∃ f ∈ fams, f.samples.isEmpty = true ∨ f.name.isEmpty = true := by
  induction fams with
  | nil => simp [encodeStream]
  | cons f r ih =>
    rw [List.forall_mem_cons] at hw
    obtain ⟨b, hb⟩ := Option.isSome_iff_exists.1 hw.1
    simp only [List.mem_cons, exists_eq_or_imp]
    rw [← Bool.or_eq_true, ← ih hw.2, encodeStream, hb]
    by_cases hc : (f.samples.isEmpty || f.name.isEmpty) = true <;> simp [hc]

/-- one frame per family, in order: the stream is the concatenation of the length-delimited messages -/
theorem stream_is_concatenation (tbl : List (String × List WField)) (f : Family) (r : List Family) (b : List UInt8)
    (hc : (f.samples.isEmpty || f.name.isEmpty) = false) (he : encDelimited tbl (familyFields f) = some b) :
    (encodeStream tbl (f :: r)).1 = b ++ (encodeStream tbl r).1 := by
  simp [encodeStream, hc, he]

/-- for ANY writer table and schema that are `Compatible`, any message of any
    shape and nesting that the table-driven writer accepts (below 2^64 bytes) is read back by the
    independent schema-driven reader, from exactly those bytes, as the fields the writer wrote, in write
    order (`canon`: at each level the entries whose name the table lists, grouped by the table's field
    order, values untouched): no written field is dropped, merged, retyped or renumbered, and nothing else
    is in the stream. An entry under a name the table does not list is not written, and `canon` omits it
    too; the library builds no such entry (`familyFields` uses the table's names only, so `canon` is the
    identity on its messages: `library_messages_canonical`). -/
theorem message_roundtrip (tbl : List (String × List WField)) (sch : List (String × List SField))
    (hc : Compatible tbl sch = true) (d : Nat) (name : String) (fs : Fields) (bytes : List UInt8)
    (henc : encMsg tbl d name fs = some bytes) (hlen : bytes.length < 2 ^ 64) :
    decMsg sch d (bytes.length + 1) name bytes = some (canon tbl d name fs) :=
  have hag := agrees_of_compatible tbl sch hc
  msg_rt tbl sch hag d (field_rt tbl sch hag d) name fs bytes henc hlen

/-- the messages the library builds are already in the write order of the regenerated table, at
    every level (labels, value slot, timestamp; count, sum, buckets; …) -/
theorem library_messages_canonical (f : Family) :
    canon Gen.writerTable 8 "MetricFamily" (familyFields f) = familyFields f := canon_family 5 f

/-- with the tables regenerated from /repo: whenever the encoder returns
    Ok, the stream it wrote decodes (independent reader, .proto schema) to exactly the families that
    were encoded — names, help, types, label pairs, bit-exact values, counts, buckets, timestamps, in
    order — for every list of families whose counts fit u64 and timestamps fit i64, an untyped sample
    (which the library never produces) holding 0 (`WfSample`). -/
theorem exposition_roundtrip (fams : List Family)
    (hok : (encodeStream Gen.writerTable fams).2 = true)
    (hlen : (encodeStream Gen.writerTable fams).1.length < 2 ^ 64)
    (hwf : ∀ f ∈ fams, ∀ s ∈ f.samples, WfSample s) :
    decodeFamilies Gen.schema (encodeStream Gen.writerTable fams).1 = some fams := by
  unfold decodeFamilies
  rw [stream_rt _ _ (agrees_of_compatible _ _ compatible_generated) fams _ (by rw [← hok]) hlen (fun f _ => library_messages_canonical f) _
    (Nat.lt_succ_self _)]
  exact mapM_msgToFamily fams hwf

def exFam : Family := ⟨strOfString "h", strOfString "help", .histogram,
  [⟨[⟨strOfString "k", strOfString "v"⟩], .hist 3 0x4008000000000000 [(0x3FF0000000000000, 1), (0x7FF0000000000000, 3)], -5⟩]⟩

-- non-vacuity of `exposition_roundtrip`: a histogram family with labels, buckets and a timestamp meets its three hypotheses
example : (encodeStream Gen.writerTable [exFam]).2 = true := by decide +kernel
example : (encodeStream Gen.writerTable [exFam]).1.length < 2 ^ 64 := by decide +kernel
example : ∀ f ∈ [exFam], ∀ s ∈ f.samples, WfSample s := by
  intro f hf s hs
  obtain rfl := List.mem_singleton.1 hf
  obtain rfl := List.mem_singleton.1 hs
  exact ⟨⟨by decide, by decide⟩, by decide, by decide⟩

end Prom.C13
